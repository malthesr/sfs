/-
The npy reader and writer as two stages each: `readNpy` = framing (magic, version, length field) followed by
`npyAfterHeader` (ASCII check, grammar, value loop, size check); `writeNpy` = `npyHeader` followed by the values.
-/
import SfsModel.Model.Npy
namespace Sfs

/-- Width of the header-length field for a major version (`header_len_bytes_len`). -/
def npyLenWidth (major : Nat) : Option Nat := match major with
  | 1 => some 2 | 2 => some 4 | 3 => some 4 | _ => none

/-- What `readNpy` does once the header bytes and the rest of the file have been separated. -/
def npyAfterHeader (dictBytes body : List Nat) : Except IoErr (List Nat × List Nat) :=
  if !allAscii dictBytes then .error .invalid
  else match parseNpyDict (bytesToChars dictBytes) with
    | none => .error .invalid
    | some d =>
      if d.fortran then .error .invalid
      else match readValues d.endian d.ty (body.length + 1) body with
        | .error e => .error e
        | .ok vals =>
          if checkedSize d.shape = some vals.length then .ok (d.shape, vals) else .error .invalid

theorem npyLenWidth_none (major : Nat) (h : major ≠ 1 ∧ major ≠ 2 ∧ major ≠ 3) : npyLenWidth major = none := by
  unfold npyLenWidth
  split <;> simp_all

theorem readNpy_eq (b : List Nat) : readNpy b =
    if b.length < 6 then .error .eof
    else if b.take 6 ≠ npyMagic then .error .invalid
    else if (b.drop 6).length < 2 then .error .eof
    else match npyLenWidth ((b.drop 6).getD 0 0) with
      | none => .error .invalid
      | some w =>
        if ((b.drop 6).drop 2).length < w then .error .eof
        else if (((b.drop 6).drop 2).drop w).length < ofLeBytes (((b.drop 6).drop 2).take w) then .error .eof
        else npyAfterHeader ((((b.drop 6).drop 2).drop w).take (ofLeBytes (((b.drop 6).drop 2).take w)))
          ((((b.drop 6).drop 2).drop w).drop (ofLeBytes (((b.drop 6).drop 2).take w))) := rfl

theorem readNpy_version (major minor : Nat) (tail : List Nat) :
    readNpy (npyMagic ++ major :: minor :: tail) =
      match npyLenWidth major with
      | none => .error .invalid
      | some w =>
        if tail.length < w then .error .eof
        else if (tail.drop w).length < ofLeBytes (tail.take w) then .error .eof
        else npyAfterHeader ((tail.drop w).take (ofLeBytes (tail.take w))) ((tail.drop w).drop (ofLeBytes (tail.take w))) := by
  have hm : npyMagic.length = 6 := rfl
  rw [readNpy_eq, List.take_left' hm, List.drop_left' hm, if_neg (by rw [List.length_append, hm]; omega),
    if_neg (not_not_intro rfl), if_neg (by simp only [List.length_cons]; omega)]
  rfl

/-- A framed file: `lenB` is the length field, `dict` the header bytes it announces. -/
theorem readNpy_frame (major minor : Nat) (lenB dict body : List Nat)
    (hw : npyLenWidth major = some lenB.length) (hL : ofLeBytes lenB = dict.length) :
    readNpy (npyMagic ++ major :: minor :: (lenB ++ (dict ++ body))) = npyAfterHeader dict body := by
  rw [readNpy_version, hw]
  simp only [List.take_left, List.drop_left, hL]
  rw [if_neg (by rw [List.length_append]; omega), if_neg (by rw [List.length_append]; omega)]

theorem readNpy_ok_prefix (b : List Nat) (r : List Nat × List Nat) (h : readNpy b = .ok r) :
    ∃ major minor t, b = npyMagic ++ major :: minor :: t := by
  rw [readNpy_eq] at h
  by_cases h6 : b.length < 6
  · rw [if_pos h6] at h; cases h
  by_cases hm : b.take 6 ≠ npyMagic
  · rw [if_neg h6, if_pos hm] at h; cases h
  by_cases h2 : (b.drop 6).length < 2
  · rw [if_neg h6, if_neg hm, if_pos h2] at h; cases h
  match hd : b.drop 6, h2 with
  | major :: minor :: t, _ => exact ⟨major, minor, t, by rw [← hd, ← Classical.not_not.mp hm, List.take_append_drop]⟩
  | [_], h2 => exact absurd (Nat.lt_succ_self 1) h2
  | [], h2 => exact absurd Nat.zero_lt_two h2

theorem readNpy_ok_iff {b : List Nat} {r : List Nat × List Nat} :
    readNpy b = .ok r ↔ ∃ major minor lenB dict body, b = npyMagic ++ major :: minor :: (lenB ++ (dict ++ body)) ∧
      npyLenWidth major = some lenB.length ∧ ofLeBytes lenB = dict.length ∧ npyAfterHeader dict body = .ok r := by
  constructor
  · intro h
    obtain ⟨major, minor, t, rfl⟩ := readNpy_ok_prefix b r h
    rw [readNpy_version] at h
    cases hw : npyLenWidth major with
    | none => rw [hw] at h; cases h
    | some w =>
      rw [hw] at h
      dsimp only at h
      by_cases hlw : t.length < w
      · rw [if_pos hlw] at h; cases h
      by_cases hL : (t.drop w).length < ofLeBytes (t.take w)
      · rw [if_neg hlw, if_pos hL] at h; cases h
      rw [if_neg hlw, if_neg hL] at h
      refine ⟨major, minor, t.take w, (t.drop w).take (ofLeBytes (t.take w)), (t.drop w).drop (ofLeBytes (t.take w)),
        ?_, ?_, ?_, h⟩
      · rw [List.take_append_drop, List.take_append_drop]
      · rw [hw, List.length_take, Nat.min_eq_left (by omega)]
      · rw [List.length_take, Nat.min_eq_left (by omega)]
  · rintro ⟨major, minor, lenB, dict, body, rfl, hw, hL, h⟩
    rw [readNpy_frame major minor lenB dict body hw hL, h]

theorem npyAfterHeader_ok {dict body shape vals : List Nat} (h : npyAfterHeader dict body = .ok (shape, vals)) :
    ∃ d, parseNpyDict (bytesToChars dict) = some d ∧ d.fortran = false ∧ d.shape = shape ∧
      readValues d.endian d.ty (body.length + 1) body = .ok vals ∧ checkedSize shape = some vals.length := by
  unfold npyAfterHeader at h
  split at h; · cases h
  split at h; · cases h
  rename_i d hd
  split at h; · cases h
  split at h; · cases h
  rename_i hf _ vs hvs
  split at h
  · rename_i hcs
    cases h
    exact ⟨d, hd, by simpa using hf, rfl, hvs, hcs⟩
  · cases h

theorem NpyTy.width_pos (t : NpyTy) : 0 < t.width := by cases t <;> decide

/-- the value loop in closed form, for any fuel above the length (`readNpy` passes `body.length + 1`). -/
theorem readValues_eq (en : Endian) (t : NpyTy) (body : List Nat) (fuel : Nat) (hf : body.length < fuel) :
    readValues en t fuel body =
      if body.length % t.width = 0 then
        .ok ((List.range (body.length / t.width)).map (fun i => decodeValue en t ((body.drop (i * t.width)).take t.width)))
      else .error .eof := by
  induction hn : body.length using Nat.strongRecOn generalizing body fuel with
  | _ n ih =>
    subst hn
    have hw := NpyTy.width_pos t
    cases fuel with
    | zero => omega
    | succ fuel =>
      unfold readValues
      by_cases he : body = []
      · subst he; simp
      · have hlen : 0 < body.length := List.length_pos_iff.mpr he
        rw [if_neg (by rwa [List.isEmpty_iff])]
        by_cases hlt : body.length < t.width
        · have : body.length % t.width ≠ 0 := by rw [Nat.mod_eq_of_lt hlt]; omega
          rw [if_pos hlt, if_neg this]
        · simp only [hlt, if_false]
          have hdl : (body.drop t.width).length = body.length - t.width := List.length_drop
          rw [ih _ (by omega) (body.drop t.width) fuel (by omega) hdl]
          rw [← Nat.mod_eq_sub_mod (Nat.le_of_not_lt hlt)]
          by_cases hm : body.length % t.width = 0
          · simp only [hm, if_true]
            -- `range (k+1) = 0 :: map succ (range k)`: item `i+1` of `body` is item `i` of `body.drop width`
            rw [Nat.div_eq_sub_div hw (Nat.le_of_not_lt hlt), List.range_succ_eq_map]
            simp only [List.map_cons, List.map_map, Nat.zero_mul, List.drop_zero]
            congr 2
            apply List.map_congr_left
            intro i _
            simp only [Function.comp, List.drop_drop, Nat.succ_mul]
            congr 3; omega
          · simp [hm]

/-- A header that parses, followed by a body that is not `width` bytes for each of the declared elements. -/
theorem npyAfterHeader_bad_body (dict body : List Nat) (d : NpyDict) (n : Nat) (hasc : allAscii dict = true)
    (hd : parseNpyDict (bytesToChars dict) = some d) (hsz : checkedSize d.shape = some n)
    (hbody : body.length ≠ d.ty.width * n) : ∃ e, npyAfterHeader dict body = .error e := by
  have hv := readValues_eq d.endian d.ty body (body.length + 1) (Nat.lt_succ_self _)
  simp only [npyAfterHeader, hasc, hd, Bool.not_true, Bool.false_eq_true, if_false, hv]
  cases d.fortran
  · by_cases hm : body.length % d.ty.width = 0
    · have hn : ¬ n = body.length / d.ty.width := by
        rintro rfl
        exact hbody (Nat.eq_mul_of_div_eq_right (Nat.dvd_of_mod_eq_zero hm) rfl)
      rw [if_pos hm]
      simp only [List.length_map, List.length_range, hsz, Option.some.injEq, hn, if_false]
      exact ⟨_, rfl⟩
    · rw [if_neg hm]; exact ⟨_, rfl⟩
  · exact ⟨_, rfl⟩

-- `writeNpy` is opened by `delta` and a case split. Comparing `writeNpy shape bits` with the `match` itself
-- (`rw [writeNpy]` when its equation lemma is generated, `unfold`, a stated `… = match … := rfl`) makes elaborator or kernel
-- reduce the discriminant `npyHeader shape` down to the length of `npyDict`'s literal, once per use.
theorem writeNpy_eq (shape bits : List Nat) :
    writeNpy shape bits =
      (npyHeader shape).elim (.error .invalid) (fun hd => .ok (hd ++ (bits.map (leBytes 8)).flatten)) := by
  delta writeNpy
  cases npyHeader shape <;> rfl

theorem writeNpy_ok_iff (shape bits bytes : List Nat) :
    writeNpy shape bits = .ok bytes ↔ ∃ hd, npyHeader shape = some hd ∧ bytes = hd ++ (bits.map (leBytes 8)).flatten := by
  rw [writeNpy_eq]
  cases npyHeader shape with
  | none => simp
  | some hd => simp [eq_comm]

theorem writeNpy_error_iff (shape bits : List Nat) : writeNpy shape bits = .error .invalid ↔ npyHeader shape = none := by
  rw [writeNpy_eq]
  cases npyHeader shape <;> simp

theorem npyHeader_layout (shape hd : List Nat) (hh : npyHeader shape = some hd) :
    ∃ L pad, hd = npyMagic ++ [1, 0] ++ leBytes 2 L ++ asciiBytes (npyDict shape) ++ List.replicate pad 32 ++ [10] ∧
      L = (npyDict shape).length + pad + 1 ∧ (10 + L) % 64 = 0 ∧ pad < 64 ∧ L < 65536 := by
  rw [npyHeader] at hh
  split at hh
  · rename_i hlt
    cases hh
    refine ⟨_, _, rfl, ?_, ?_, ?_, hlt⟩ <;> omega
  · cases hh

theorem npyHeader_none_iff (shape : List Nat) :
    npyHeader shape = none ↔ 65536 ≤ (npyDict shape).length + (64 - (10 + (npyDict shape).length) % 64) := by
  rw [npyHeader]
  simp only [ite_eq_right_iff, reduceCtorEq, imp_false, Nat.not_lt]

end Sfs
