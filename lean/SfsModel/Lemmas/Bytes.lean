/-
What the byte and digit codecs of both spectrum formats do on what the writers emit: little-endian bytes and back,
ASCII bytes and characters, decimal digits and back (`showNat`, `joinNats`, `pU64`).
-/
import SfsModel.Model.Text
import SfsModel.Lemmas.ListAux
namespace Sfs

@[simp] theorem leBytes_length (k n : Nat) : (leBytes k n).length = k := by
  induction k generalizing n with
  | zero => simp [leBytes]
  | succ k ih => simp [leBytes, ih]

theorem leBytes_lt (k n : Nat) : ∀ b ∈ leBytes k n, b < 256 := by
  induction k generalizing n with
  | zero => simp [leBytes]
  | succ k ih =>
    intro b hb
    simp only [leBytes, List.mem_cons] at hb
    rcases hb with rfl | hb
    · exact Nat.mod_lt _ (by decide)
    · exact ih _ b hb

theorem ofLeBytes_leBytes (k n : Nat) : ofLeBytes (leBytes k n) = n % 256 ^ k := by
  induction k generalizing n with
  | zero => simp [leBytes, ofLeBytes, Nat.mod_one]
  | succ k ih =>
    simp only [leBytes, ofLeBytes, ih]
    rw [Nat.pow_succ, Nat.mul_comm (256 ^ k) 256, Nat.mod_mul]

theorem ofLeBytes_leBytes_of_lt (k n : Nat) (h : n < 256 ^ k) : ofLeBytes (leBytes k n) = n := by
  rw [ofLeBytes_leBytes, Nat.mod_eq_of_lt h]

theorem ofLeBytes_lt (l : List Nat) (h : ∀ b ∈ l, b < 256) : ofLeBytes l < 256 ^ l.length := by
  induction l with
  | nil => simp [ofLeBytes]
  | cons b bs ih =>
    have hb : b < 256 := h b (by simp)
    have := ih (fun x hx => h x (by simp [hx]))
    simp only [ofLeBytes, List.length_cons, Nat.pow_succ]
    omega

@[simp] theorem bytesToChars_asciiBytes (s : List Char) : bytesToChars (asciiBytes s) = s := by
  induction s with
  | nil => rfl
  | cons c s ih =>
    simp only [bytesToChars, asciiBytes, List.map_cons, List.map_map] at ih ⊢
    rw [ih, Char.ofNat_toNat]

@[simp] theorem asciiBytes_append (a b : List Char) : asciiBytes (a ++ b) = asciiBytes a ++ asciiBytes b := by
  simp [asciiBytes]

@[simp] theorem bytesToChars_append (a b : List Nat) : bytesToChars (a ++ b) = bytesToChars a ++ bytesToChars b := by
  simp [bytesToChars]

@[simp] theorem asciiBytes_length (a : List Char) : (asciiBytes a).length = a.length := by
  simp [asciiBytes]

@[simp] theorem allAscii_append (a b : List Nat) : allAscii (a ++ b) = (allAscii a && allAscii b) := by
  simp [allAscii]

theorem allAscii_asciiBytes (s : List Char) (h : ∀ c ∈ s, c.toNat < 128) : allAscii (asciiBytes s) = true := by
  simp only [allAscii, asciiBytes, List.all_map, List.all_eq_true, Function.comp]
  intro c hc
  simpa using h c hc

theorem digitsVal_eq (l : List Char) : digitsVal l = Nat.ofDigitChars 10 l 0 := rfl

theorem digitsVal_toDigits (n : Nat) : digitsVal (Nat.toDigits 10 n) = n :=
  Nat.ofDigitChars_toDigits (by decide) (by decide)

theorem digitsVal_append (a b : List Char) :
    digitsVal (a ++ b) = 10 ^ b.length * digitsVal a + digitsVal b := by
  rw [digitsVal_eq, Nat.ofDigitChars_append, Nat.ofDigitChars_eq_ofDigitChars_zero]
  rfl

@[simp] theorem digitsVal_replicate_zero (n : Nat) : digitsVal (List.replicate n '0') = 0 := by
  rw [digitsVal_eq, Nat.ofDigitChars_replicate_zero]; simp

theorem showNat_ne_nil (n : Nat) : showNat n ≠ [] := Nat.toDigits_ne_nil

theorem showNat_head (n : Nat) : ∃ c t, showNat n = c :: t ∧ c.isDigit = true := by
  cases h : showNat n with
  | nil => exact absurd h (showNat_ne_nil n)
  | cons c t => exact ⟨c, t, rfl, toDigits_isDigit n c (show c ∈ showNat n by rw [h]; exact List.mem_cons_self)⟩

theorem showNat_last (n : Nat) : ∃ t c, showNat n = t ++ [c] ∧ c.isDigit = true := by
  have hne := showNat_ne_nil n
  refine ⟨(showNat n).dropLast, (showNat n).getLast hne, (List.dropLast_concat_getLast hne).symm, ?_⟩
  exact toDigits_isDigit n _ (List.getLast_mem hne)

theorem isDigit_toNat {c : Char} (h : c.isDigit = true) : 48 ≤ c.toNat ∧ c.toNat ≤ 57 := by
  simp only [Char.isDigit, Bool.and_eq_true, decide_eq_true_eq] at h
  have h1 : '0'.val ≤ c.val := h.1
  have h2 : c.val ≤ '9'.val := h.2
  rw [UInt32.le_iff_toNat_le] at h1 h2
  exact ⟨h1, h2⟩

theorem isDigit_ne {c x : Char} (h : c.isDigit = true) (hx : x.isDigit = false) : c ≠ x := by
  rintro rfl
  rw [h] at hx
  cases hx

theorem isDigit_lt128 {c : Char} (h : c.isDigit = true) : c.toNat < 128 := by
  have := isDigit_toNat h; omega

theorem joinNats_cons_cons (sep : List Char) (a b : Nat) (rest : List Nat) :
    joinNats sep (a :: b :: rest) = showNat a ++ sep ++ joinNats sep (b :: rest) := rfl

theorem joinNats_head (sep : List Char) (shape : List Nat) (hne : shape ≠ []) :
    ∃ c t, joinNats sep shape = c :: t ∧ c.isDigit = true := by
  match shape, hne with
  | [a], _ => exact showNat_head a
  | a :: b :: rest, _ =>
    obtain ⟨c, t, h, hc⟩ := showNat_head a
    exact ⟨c, _, by rw [joinNats_cons_cons, h]; rfl, hc⟩

theorem joinNats_last (sep : List Char) (shape : List Nat) (hne : shape ≠ []) :
    ∃ t c, joinNats sep shape = t ++ [c] ∧ c.isDigit = true := by
  induction shape with
  | nil => exact absurd rfl hne
  | cons a rest ih =>
    cases rest with
    | nil => simpa [joinNats] using showNat_last a
    | cons b rest =>
      obtain ⟨t, c, h, hc⟩ := ih (by simp)
      exact ⟨showNat a ++ sep ++ t, c, by simp [joinNats_cons_cons, h], hc⟩

theorem joinNats_eq (sep : List Char) : ∀ l : List Nat, joinNats sep l = sep.intercalate (l.map showNat)
  | [] => rfl
  | [a] => by simp [joinNats]
  | a :: b :: r => by
    rw [joinNats_cons_cons, joinNats_eq sep (b :: r)]
    simp [List.intercalate]

theorem spec_joinNats_chars (sep : List Char) : ∀ (shape : List Nat), ∀ c ∈ joinNats sep shape, c.isDigit = true ∨ c ∈ sep
  | [], c, h => by cases h
  | [a], c, h => .inl (toDigits_isDigit a c h)
  | a :: b :: rest, c, h => by
    rw [joinNats_cons_cons] at h
    simp only [List.mem_append] at h
    rcases h with (h | h) | h
    · exact .inl (toDigits_isDigit a c h)
    · exact .inr h
    · exact spec_joinNats_chars sep (b :: rest) c h

theorem pU64_showNat (n : Nat) (rest : List Char) (hn : n < 2 ^ 64) (hrest : HeadNot Char.isDigit rest) :
    pU64 (showNat n ++ rest) = some (n, rest) := by
  unfold pU64
  have h := takeWhile_append_stop Char.isDigit (showNat n) rest (toDigits_isDigit n) hrest
  have hne : (showNat n).isEmpty = false := List.isEmpty_eq_false_iff.2 (showNat_ne_nil n)
  have hv : (showNat n).foldl (fun acc c => 10 * acc + (c.toNat - '0'.toNat)) 0 = n := digitsVal_toDigits n
  simp only [h.1, h.2, hne, hv, hn, if_true, Bool.false_eq_true, if_false]

theorem pU64_nondigit (inp : List Char) (h : HeadNot Char.isDigit inp) : pU64 inp = none := by
  unfold pU64
  cases inp with
  | nil => simp
  | cons c t => simp [List.takeWhile, h c rfl]

end Sfs
