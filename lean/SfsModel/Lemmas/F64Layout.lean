/-
The bit layout of binary64: `f64OfBits` is `f64Val` of the three fields of a pattern, and what every conversion into
binary64 rests on: exponent field `E` and 53-bit significand `M` denote `M · 2^(E - 1075)` (`f64OfBits_normal`).
-/
import SfsModel.Model.F64
import SfsModel.Lemmas.RoundHE
import SfsModel.Lemmas.ListAux
-- `Mathlib.Data.List.Monad`, which arrives through this import, gives the `Monad List` instance that `it_coe` / `it_map_coe`
-- (TextValue) speak of
import Mathlib.Tactic.FieldSimp
namespace Sfs

theorem zpow2_pos (e : Int) : (0 : Rat) < (2 : Rat) ^ e := zpow_pos (by norm_num) e

theorem zpow2_add (a b : Int) : (2 : Rat) ^ (a + b) = (2 : Rat) ^ a * (2 : Rat) ^ b := zpow_add₀ (by norm_num) a b

theorem zpow2_lt (a b : Int) : (2 : Rat) ^ a < (2 : Rat) ^ b ↔ a < b := zpow_lt_zpow_iff_right₀ (by norm_num)

theorem natCast_two_pow (k : Nat) : (((2 : Nat) ^ k : Nat) : Rat) = (2 : Rat) ^ (k : Int) := by
  rw [Nat.cast_pow, Nat.cast_ofNat, zpow_natCast]

theorem log2_bounds (n : Nat) (hn : n ≠ 0) : 2 ^ Nat.log2 n ≤ n ∧ n < 2 ^ (Nat.log2 n + 1) :=
  ⟨Nat.log2_self_le hn, Nat.lt_log2_self⟩

theorem log2Nat_eq (n : Nat) : log2Nat n = Nat.log2 n := rfl

/-- `f64OfBits` on the three fields. -/
def f64Val (sign : Bool) (e m : Nat) : XR :=
  if e == 2047 then (if m == 0 then .inf sign else .nan)
  else
    let num : Nat := if e == 0 then m else if e ≥ 1075 then (2 ^ 52 + m) * 2 ^ (e - 1075) else 2 ^ 52 + m
    let den : Nat := if e == 0 then 2 ^ 1074 else if e ≥ 1075 then 1 else 2 ^ (1075 - e)
    let mag : Rat := (num : Rat) / (den : Rat)
    .fin (if sign then -mag else mag)

set_option exponentiation.threshold 1100 in
theorem f64OfBits_eq (b : Nat) :
    f64OfBits b = f64Val (b / 2 ^ 63 % 2 == 1) (b / 2 ^ 52 % 2 ^ 11) (b % 2 ^ 52) := rfl

theorem f64OfBits_mk (s E m : Nat) (hs : s < 2) (hE : E < 2 ^ 11) (hm : m < 2 ^ 52) :
    f64OfBits (s * 2 ^ 63 + E * 2 ^ 52 + m) = f64Val (s == 1) E m := by
  have e : s * 2 ^ 63 + E * 2 ^ 52 + m = (s * 2 ^ 11 + E) * 2 ^ 52 + m := by
    rw [Nat.add_mul, Nat.mul_assoc, ← Nat.pow_add]
  obtain ⟨h1, h2⟩ := mul_add_div_mod (s * 2 ^ 11 + E) m (2 ^ 52) hm
  obtain ⟨h3, h4⟩ := mul_add_div_mod s E (2 ^ 11) hE
  rw [f64OfBits_eq, e, h2, h1, h4, show (2 : Nat) ^ 63 = 2 ^ 52 * 2 ^ 11 from rfl, ← Nat.div_div_eq_div_mul, h1, h3,
    Nat.mod_eq_of_lt hs]

theorem f64Val_max (sign : Bool) (m : Nat) : f64Val sign 2047 m = if m == 0 then .inf sign else .nan := rfl

theorem f64OfBits_qnan : f64OfBits (2047 * 2 ^ 52 + 2 ^ 51) = .nan := by decide +kernel
theorem f64OfBits_pinf : f64OfBits (2047 * 2 ^ 52) = .inf false := by decide +kernel
theorem f64OfBits_ninf : f64OfBits (2 ^ 63 + 2047 * 2 ^ 52) = .inf true := by decide +kernel

theorem f64Val_zero (sign : Bool) : f64Val sign 0 0 = .fin 0 := by
  unfold f64Val
  have z : ((0 : Nat) == 0) = true := rfl
  have z2 : ((0 : Nat) == 2047) = false := by decide
  rw [z2, z]
  simp only [Bool.false_eq_true, if_false, if_true, Nat.cast_zero, zero_div, neg_zero, ite_self]

theorem f64OfBits_zero : f64OfBits 0 = .fin 0 :=
  (f64OfBits_mk 0 0 0 (by omega) (by omega) (by omega)).trans (f64Val_zero _)

theorem f64Val_sign_true (E m : Nat) : f64Val true E m = (f64Val false E m).neg := by
  unfold f64Val
  split
  · split <;> rfl
  · simp only [if_true, Bool.false_eq_true, if_false, XR.neg]

theorem f64OfBits_setSign (b : Nat) (hb : b < 2 ^ 63) :
    f64OfBits (2 ^ 63 + b) = (f64OfBits b).neg ∧ f64Sign (2 ^ 63 + b) = true := by
  have hE : b / 2 ^ 52 < 2 ^ 11 := by omega
  have hm : b % 2 ^ 52 < 2 ^ 52 := Nat.mod_lt _ (by decide)
  have h0 := f64OfBits_mk 0 _ _ (by decide) hE hm
  have h1 := f64OfBits_mk 1 _ _ (by decide) hE hm
  rw [Nat.zero_mul, Nat.zero_add, Nat.div_add_mod' b (2 ^ 52)] at h0
  rw [Nat.one_mul, Nat.add_assoc, Nat.div_add_mod' b (2 ^ 52)] at h1
  refine ⟨by rw [h0, h1]; exact f64Val_sign_true _ _, ?_⟩
  unfold f64Sign
  rw [Nat.add_div_left _ (by decide), Nat.div_eq_of_lt hb]
  rfl

theorem f64Sign_of_lt (b : Nat) (h : b < 2 ^ 63) : f64Sign b = false := by
  unfold f64Sign
  rw [Nat.div_eq_of_lt h]
  rfl

/-- a sign spelled `if neg then 2^63 else 0` in front of a non-negative pattern. -/
theorem f64OfBits_sign (neg : Bool) (b : Nat) (hb : b < 2 ^ 63) :
    f64OfBits ((if neg then 2 ^ 63 else 0) + b) = if neg then (f64OfBits b).neg else f64OfBits b := by
  cases neg
  · rw [if_neg Bool.false_ne_true, if_neg Bool.false_ne_true, Nat.zero_add]
  · rw [if_pos rfl, if_pos rfl, (f64OfBits_setSign b hb).1]

theorem f64Val_normal (E mm : Nat) (hE0 : 0 < E) (hE : E < 2047) :
    f64Val false E mm = .fin (((2 ^ 52 + mm : Nat) : Rat) * (2 : Rat) ^ ((E : Int) - 1075)) := by
  have e1 : (E == 2047) = false := by simp; omega
  have e2 : (E == 0) = false := by simp; omega
  unfold f64Val
  simp only [e1, e2, Bool.false_eq_true, if_false, ge_iff_le]
  by_cases h : 1075 ≤ E
  · simp only [h, if_true, Nat.cast_one, div_one]
    rw [show (E : Int) - 1075 = ((E - 1075 : Nat) : Int) by omega, Nat.cast_mul, natCast_two_pow]
  · simp only [h, if_false]
    rw [show (E : Int) - 1075 = -((1075 - E : Nat) : Int) by omega, natCast_two_pow, div_eq_mul_inv, ← zpow_neg]

/-- Exponent field `E` and significand `M` (53 bits, the leading one included) denote `M · 2^(E - 1075)`. `M = 2^53`,
    what a significand may round up to, needs no case of its own: the pattern arithmetic carries into the exponent field. -/
theorem f64OfBits_normal (E M : Nat) (hE0 : 0 < E) (hE : E < 2046) (h1 : 2 ^ 52 ≤ M) (h2 : M ≤ 2 ^ 53) :
    f64OfBits (E * 2 ^ 52 + (M - 2 ^ 52)) = .fin ((M : Rat) * (2 : Rat) ^ ((E : Int) - 1075)) ∧
      E * 2 ^ 52 + (M - 2 ^ 52) < 2 ^ 63 := by
  refine ⟨?_, by omega⟩
  -- as fields: `(E + k) · 2^52 + mm` with `2^52 + mm = M / 2^k` (`k = 1` when `M = 2^53`)
  have key : ∀ (mm k : Nat), E + k < 2047 → mm < 2 ^ 52 → (2 ^ 52 + mm) * 2 ^ k = M →
      f64OfBits ((E + k) * 2 ^ 52 + mm) = .fin ((M : Rat) * (2 : Rat) ^ ((E : Int) - 1075)) := by
    intro mm k hE' hmm hm
    have := f64OfBits_mk 0 (E + k) mm (by decide) (Nat.lt_trans hE' (by decide)) hmm
    rw [Nat.zero_mul, Nat.zero_add] at this
    rw [this.trans (f64Val_normal (E + k) mm (Nat.add_pos_left hE0 k) hE'), ← hm, Nat.cast_mul, natCast_two_pow, mul_assoc,
      ← zpow2_add]
    congr 3
    omega
  by_cases hM : M = 2 ^ 53
  · subst hM
    rw [show E * 2 ^ 52 + (2 ^ 53 - 2 ^ 52) = (E + 1) * 2 ^ 52 + 0 by omega]
    exact key 0 1 (Nat.succ_lt_succ hE) (by decide) rfl
  · exact key (M - 2 ^ 52) 0 (Nat.lt_succ_of_lt hE) (by omega) (by omega)

theorem f64OfBits_sign_normal (neg : Bool) (E M : Nat) (hE0 : 0 < E) (hE : E < 2046) (h1 : 2 ^ 52 ≤ M) (h2 : M ≤ 2 ^ 53) :
    f64OfBits ((if neg then 2 ^ 63 else 0) + (E * 2 ^ 52 + (M - 2 ^ 52))) =
      .fin (if neg then -((M : Rat) * (2 : Rat) ^ ((E : Int) - 1075)) else (M : Rat) * (2 : Rat) ^ ((E : Int) - 1075)) := by
  obtain ⟨hv, hlt⟩ := f64OfBits_normal E M hE0 hE h1 h2
  rw [f64OfBits_sign neg _ hlt, hv]
  cases neg <;> rfl

theorem nat_div_lt (N D K : Nat) (hD : 0 < D) (h : N < K * D) : (N : Rat) / (D : Rat) < (K : Rat) := by
  have hD' : (0 : Rat) < (D : Rat) := by exact_mod_cast hD
  rw [div_lt_iff₀ hD']
  exact_mod_cast h

-- the threshold: without it the `2 ^ 1024` of the bounds below is left unevaluated, with a warning at each
set_option exponentiation.threshold 2000 in
theorem f64OfBits_fin_lt (b : Nat) (q : Rat) (h : f64OfBits b = .fin q) : absRat q < ((2 ^ 1024 : Nat) : Rat) := by
  rw [f64OfBits_eq] at h
  have he : b / 2 ^ 52 % 2 ^ 11 < 2 ^ 11 := Nat.mod_lt _ (by decide)
  have hm : b % 2 ^ 52 < 2 ^ 52 := Nat.mod_lt _ (by decide)
  generalize b / 2 ^ 52 % 2 ^ 11 = e at *
  generalize b % 2 ^ 52 = m at *
  generalize (b / 2 ^ 63 % 2 == 1) = sign at *
  unfold f64Val at h
  by_cases he2 : (e == 2047) = true
  · rw [if_pos he2] at h; split at h <;> cases h
  · rw [if_neg he2] at h
    extract_lets num den mag at h
    have he' : e < 2047 := by
      have : e ≠ 2047 := by simpa using he2
      omega
    -- the numerator alone is below `2^53 · 2^971` (the extreme case is `e = 2046`, `2046 - 1075 = 971`), the
    -- denominator is a power of two. The three branches of both: subnormal (`e = 0`), `1075 ≤ e`, `0 < e < 1075`.
    have hnum : num < 2 ^ 1024 := by
      simp only [num]
      split
      · exact Nat.lt_trans hm (Nat.pow_lt_pow_right (by decide) (by decide))
      · split
        · calc (2 ^ 52 + m) * 2 ^ (e - 1075) < 2 ^ 53 * 2 ^ 971 :=
                Nat.mul_lt_mul_of_lt_of_le (by omega) (Nat.pow_le_pow_right (by decide) (by omega)) (Nat.pow_pos (by decide))
            _ = 2 ^ 1024 := (Nat.pow_add _ _ _).symm
        · exact Nat.lt_trans (show 2 ^ 52 + m < 2 ^ 53 by omega) (Nat.pow_lt_pow_right (by decide) (by decide))
    have hden : 0 < den := by
      simp only [den]
      split
      · exact Nat.pow_pos (by decide)
      · split
        · decide
        · exact Nat.pow_pos (by decide)
    have hmag : mag < ((2 ^ 1024 : Nat) : Rat) :=
      nat_div_lt num den _ hden (Nat.lt_of_lt_of_le hnum (Nat.le_mul_of_pos_right _ hden))
    have hmag0 : 0 ≤ mag := div_nonneg (Nat.cast_nonneg _) (Nat.cast_nonneg _)
    injection h with h
    rw [← h, absRat_eq_abs, apply_ite abs, abs_neg, ite_self, abs_of_nonneg hmag0]
    exact hmag

end Sfs
