/-
The sample map: `distinctInOrder` / `indexMapOfList` seen from the right end of the list, `sampleMap` and its
population ids, what does not depend on the order of the map's entries.
-/
import SfsModel.Model.Create
import SfsModel.Lemmas.ListAux
namespace Sfs

theorem distinctInOrder_nil {κ} [DecidableEq κ] : distinctInOrder ([] : List κ) = [] := rfl

theorem distinctInOrder_snoc {κ} [DecidableEq κ] (l : List κ) (a : κ) :
    distinctInOrder (l ++ [a]) = if a ∈ distinctInOrder l then distinctInOrder l else distinctInOrder l ++ [a] := by
  simp [distinctInOrder, List.foldl_append]

theorem mem_distinctInOrder {κ} [DecidableEq κ] {x : κ} {l : List κ} : x ∈ distinctInOrder l ↔ x ∈ l := by
  induction l using snoc_induction generalizing x with
  | nil => rfl
  | snoc l a ih =>
    rw [distinctInOrder_snoc, List.mem_append, List.mem_singleton, ← ih]
    split
    · next ha => exact ⟨Or.inl, fun h => h.elim id (· ▸ ha)⟩
    · rw [List.mem_append, List.mem_singleton]

theorem distinctInOrder_nodup {κ} [DecidableEq κ] (l : List κ) : (distinctInOrder l).Nodup := by
  induction l using snoc_induction with
  | nil => exact List.nodup_nil
  | snoc l a ih =>
    rw [distinctInOrder_snoc]
    split
    · exact ih
    · next ha =>
      exact List.nodup_append.2 ⟨ih, by simp, fun x hx y hy => by
        rw [List.mem_singleton.1 hy]; rintro rfl; exact ha hx⟩

theorem idxOf_distinctInOrder_lt_iff {κ} [DecidableEq κ] (l : List κ) : ∀ x y, x ∈ l → y ∈ l →
    ((distinctInOrder l).idxOf x < (distinctInOrder l).idxOf y ↔ l.idxOf x < l.idxOf y) := by
  induction l using snoc_induction with
  | nil => exact fun x _ hx => nomatch hx
  | snoc l a ih =>
    have hlt : ∀ x, x ∈ l → (distinctInOrder l).idxOf x < (distinctInOrder l).length ∧ l.idxOf x < l.length :=
      fun x hx => ⟨List.idxOf_lt_length_of_mem (mem_distinctInOrder.2 hx), List.idxOf_lt_length_of_mem hx⟩
    intro x y hx hy
    rw [distinctInOrder_snoc]
    by_cases ha : a ∈ distinctInOrder l
    · -- a repeated label: the result does not change, and `a` is found inside `l`
      have hsub : ∀ z, z ∈ l ++ [a] → z ∈ l := fun z hz =>
        (List.mem_append.1 hz).elim id fun h => List.mem_singleton.1 h ▸ mem_distinctInOrder.1 ha
      rw [if_pos ha, idxOf_snoc l a x hx, idxOf_snoc l a y hy, if_pos (hsub x hx), if_pos (hsub y hy)]
      exact ih x y (hsub x hx) (hsub y hy)
    · -- a new label goes to the end of both lists
      have hm : ∀ z, z ∈ l ++ [a] → z ∈ distinctInOrder l ++ [a] := fun z hz => by
        simpa only [List.mem_append, mem_distinctInOrder] using hz
      rw [if_neg ha, idxOf_snoc _ a x (hm x hx), idxOf_snoc _ a y (hm y hy), idxOf_snoc l a x hx,
        idxOf_snoc l a y hy]
      simp only [mem_distinctInOrder]
      by_cases hx' : x ∈ l <;> by_cases hy' : y ∈ l <;> simp only [hx', hy', if_true, if_false]
      · exact ih x y hx' hy' -- both in `l`
      · have := hlt x hx'; omega -- `x` in `l`, `y = a`: both sides hold
      · have := hlt y hy'; omega -- `x = a`, `y` in `l`: both sides fail
      · omega -- both are `a`: `len < len` on both sides

theorem distinctInOrder_perm {κ} [DecidableEq κ] {l l' : List κ} (hp : l.Perm l') :
    (distinctInOrder l).Perm (distinctInOrder l') := by
  rw [List.perm_ext_iff_of_nodup (distinctInOrder_nodup l) (distinctInOrder_nodup l')]
  intro x
  rw [mem_distinctInOrder, mem_distinctInOrder]
  exact hp.mem_iff

theorem distinctInOrder_map_inj {κ ι} [DecidableEq κ] [DecidableEq ι] (L : List κ) (f : κ → ι)
    (hinj : ∀ x ∈ L, ∀ y ∈ L, f x = f y → x = y) :
    distinctInOrder (L.map f) = (distinctInOrder L).map f := by
  induction L using snoc_induction with
  | nil => rfl
  | snoc L a ih =>
    have ih' := ih (fun x hx y hy => hinj x (by simp [hx]) y (by simp [hy]))
    rw [List.map_append, List.map_singleton, distinctInOrder_snoc, distinctInOrder_snoc, ih']
    have hiff : f a ∈ (distinctInOrder L).map f ↔ a ∈ distinctInOrder L := by
      constructor
      · intro h
        obtain ⟨x, hx, hfx⟩ := List.mem_map.1 h
        exact hinj x (by simp [mem_distinctInOrder.1 hx]) a (by simp) hfx ▸ hx
      · exact fun h => List.mem_map_of_mem h
    by_cases ha : a ∈ distinctInOrder L
    · rw [if_pos (hiff.2 ha), if_pos ha]
    · rw [if_neg (fun h => ha (hiff.1 h)), if_neg ha]; simp

theorem distinctInOrder_map_idxOf {κ} [DecidableEq κ] (L : List κ) :
    distinctInOrder (L.map (distinctInOrder L).idxOf) = List.range (distinctInOrder L).length := by
  rw [distinctInOrder_map_inj _ _ fun x hx y _ hxy => idxOf_inj_of_mem _ x y (mem_distinctInOrder.2 hx) hxy,
    map_idxOf_self (distinctInOrder_nodup _)]

theorem indexMapOfList_nil {κ ν} [DecidableEq κ] : indexMapOfList ([] : List (κ × ν)) = [] := rfl

theorem indexMapOfList_snoc {κ ν} [DecidableEq κ] (l : List (κ × ν)) (p : κ × ν) :
    indexMapOfList (l ++ [p]) = indexMapInsert (indexMapOfList l) p.1 p.2 := by
  simp [indexMapOfList, List.foldl_append]

theorem any_key_iff {κ ν} [DecidableEq κ] (m : List (κ × ν)) (k : κ) :
    m.any (fun p => p.1 = k) = true ↔ k ∈ m.map (·.1) := by
  simp only [List.any_eq_true, decide_eq_true_eq, List.mem_map]

theorem keys_indexMapInsert {κ ν} [DecidableEq κ] (m : List (κ × ν)) (k : κ) (v : ν) :
    (indexMapInsert m k v).map (·.1) = if k ∈ m.map (·.1) then m.map (·.1) else m.map (·.1) ++ [k] := by
  unfold indexMapInsert
  by_cases h : k ∈ m.map (·.1)
  · rw [if_pos ((any_key_iff m k).2 h), if_pos h, List.map_map]
    apply List.map_congr_left
    intro p _
    by_cases hp : p.1 = k <;> simp [hp]
  · rw [if_neg (fun h' => h ((any_key_iff m k).1 h')), if_neg h]
    simp

theorem keys_indexMapOfList {κ ν} [DecidableEq κ] (l : List (κ × ν)) :
    (indexMapOfList l).map (·.1) = distinctInOrder (l.map (·.1)) := by
  induction l using snoc_induction with
  | nil => rfl
  | snoc l p ih =>
    rw [indexMapOfList_snoc, keys_indexMapInsert, List.map_append, List.map_singleton, distinctInOrder_snoc, ih]

theorem indexMapOfList_of_nodup {κ ν} [DecidableEq κ] (l : List (κ × ν)) (hnd : (l.map (·.1)).Nodup) :
    indexMapOfList l = l := by
  induction l using snoc_induction with
  | nil => rfl
  | snoc l p ih =>
    rw [List.map_append, List.nodup_append] at hnd
    obtain ⟨h1, _, h3⟩ := hnd
    rw [indexMapOfList_snoc, ih h1]
    unfold indexMapInsert
    rw [if_neg fun h => h3 _ ((any_key_iff l p.1).1 h) p.1 (by simp) rfl]

/-- `IndexMap::insert` as seen through `get`. -/
theorem lookup_indexMapInsert {κ ν} [DecidableEq κ] (m : List (κ × ν)) (k s : κ) (v : ν) :
    (indexMapInsert m k v).lookup s = if s = k then some v else m.lookup s := by
  unfold indexMapInsert
  split
  · next hpresent => -- `k` is a key: its value is replaced, no key is touched
    have hrepl : ∀ p ∈ m, (if p.1 = k then (k, v) else p) = (p.1, if p.1 = k then v else p.2) := fun p _ => by
      split
      · next hk => rw [hk]
      · rfl
    rw [List.map_congr_left hrepl, lookup_map_snd (fun k' x => if k' = k then v else x)]
    -- resolves `s = k` also under the `map`: `map (fun _ => v)` resp. `map id`
    split
    · next hs =>
      cases hx : m.lookup s with
      | none => exact absurd ((any_key_iff m k).1 hpresent) ((lookup_eq_none_iff_not_key m k).1 (hs ▸ hx))
      | some x => rfl
    · exact Option.map_id' ..
  · next habsent => -- no key: the pair is appended
    rw [List.lookup_append, List.lookup_cons, List.lookup_nil]
    by_cases hs : s = k
    · rw [if_pos hs, hs, (lookup_eq_none_iff_not_key m k).2 (fun hk => habsent ((any_key_iff m k).2 hk)),
        beq_self_eq_true]
      rfl
    · rw [if_neg hs, beq_eq_false_iff_ne.2 hs]
      exact Option.or_none

/-- `IndexMap::from_iter` as seen through `get`: the last entry for a key decides -/
theorem lookup_indexMapOfList {κ ν} [DecidableEq κ] (l : List (κ × ν)) (s : κ) :
    (indexMapOfList l).lookup s = l.reverse.lookup s := by
  induction l using snoc_induction with
  | nil => rfl
  | snoc l p ih =>
    rw [indexMapOfList_snoc, lookup_indexMapInsert, ih, List.reverse_append, List.reverse_singleton,
      List.singleton_append, List.lookup_cons]
    by_cases hs : s = p.1
    · rw [if_pos hs, hs, beq_self_eq_true]
    · rw [if_neg hs, beq_eq_false_iff_ne.2 hs]

theorem sampleMap_eq (l : List (String × Pop)) :
    sampleMap l = (indexMapOfList l).map
      (fun p => (p.1, (distinctInOrder ((indexMapOfList l).map (·.2))).idxOf p.2)) := rfl

theorem sampleMap_keys (l : List (String × Pop)) : (sampleMap l).map (·.1) = distinctInOrder (l.map (·.1)) := by
  rw [sampleMap_eq, List.map_map, ← keys_indexMapOfList]
  rfl

theorem sampleMap_keys_nodup (l : List (String × Pop)) : ((sampleMap l).map (·.1)).Nodup := by
  rw [sampleMap_keys]
  exact distinctInOrder_nodup _

theorem sampleMap_snd (l : List (String × Pop)) :
    (sampleMap l).map (·.2) =
      ((indexMapOfList l).map (·.2)).map (distinctInOrder ((indexMapOfList l).map (·.2))).idxOf := by
  rw [sampleMap_eq, List.map_map, List.map_map]
  rfl

theorem sampleMap_numPops (l : List (String × Pop)) :
    numPops (sampleMap l) = (distinctInOrder ((indexMapOfList l).map (·.2))).length := by
  rw [numPops, sampleMap_snd, distinctInOrder_map_idxOf, List.length_range]

theorem sampleMap_ids (l : List (String × Pop)) :
    distinctInOrder ((sampleMap l).map (·.2)) = List.range (numPops (sampleMap l)) := by
  rw [sampleMap_numPops, sampleMap_snd, distinctInOrder_map_idxOf]

theorem sampleMap_snd_lt (l : List (String × Pop)) : ∀ p ∈ sampleMap l, p.2 < numPops (sampleMap l) := fun p hp =>
  List.mem_range.mp (sampleMap_ids l ▸ mem_distinctInOrder.mpr (List.mem_map_of_mem hp))

theorem mapShape_length (m : List (String × Nat)) : (mapShape m).length = numPops m := by
  simp [mapShape]

theorem sampleMap_mapShape (l : List (String × Pop)) :
    mapShape (sampleMap l) = (distinctInOrder ((indexMapOfList l).map (·.2))).map
      (fun p => 2 * ((indexMapOfList l).filter (fun sp => sp.2 = p)).length + 1) := by
  rw [mapShape, sampleMap_numPops, sampleMap_eq]
  generalize indexMapOfList l = R
  apply List.ext_getElem (by simp)
  intro i h1 h2
  have hi : i < (distinctInOrder (R.map (·.2))).length := by simpa using h2
  -- the entries with id `i` are those whose label is the `i`-th distinct one
  have : (R.map (fun p => (p.1, (distinctInOrder (R.map (·.2))).idxOf p.2))).countP (fun p => p.2 = i) =
      R.countP (fun sp => sp.2 = (distinctInOrder (R.map (·.2)))[i]) := by
    rw [List.countP_map]
    exact List.countP_congr fun sp hsp => by
      simpa using idxOf_eq_iff (distinctInOrder_nodup _) (mem_distinctInOrder.2 (List.mem_map_of_mem hsp)) hi
  simp only [List.getElem_map, List.getElem_range, ← List.countP_eq_length_filter, this]
  omega

theorem sampleMap_of_nodup (l : List (String × Pop)) (hnd : (l.map (·.1)).Nodup) :
    sampleMap l = l.map (fun sp => (sp.1, (distinctInOrder (l.map (·.2))).idxOf sp.2)) := by
  rw [sampleMap_eq, indexMapOfList_of_nodup l hnd]

theorem numPops_perm {m m' : List (String × Nat)} (hp : m.Perm m') : numPops m = numPops m' := by
  unfold numPops
  exact (distinctInOrder_perm (hp.map _)).length_eq

theorem mapShape_perm {m m' : List (String × Nat)} (hp : m.Perm m') : mapShape m = mapShape m' := by
  unfold mapShape
  rw [numPops_perm hp]
  apply List.map_congr_left
  intro id _
  rw [(hp.filter _).length_eq]

theorem sampleMap_perm (l l' : List (String × Pop)) (hnd : (l.map (·.1)).Nodup) (hp : l.Perm l')
    (ho : distinctInOrder (l.map (·.2)) = distinctInOrder (l'.map (·.2))) : (sampleMap l).Perm (sampleMap l') := by
  rw [sampleMap_of_nodup l hnd, sampleMap_of_nodup l' ((hp.map _).nodup hnd), ho]
  exact hp.map _

end Sfs
