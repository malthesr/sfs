/-
Every statistic of `Model/Stat.lean` other than KING / R0 / R1 is a weighted sum `Σ_i x_i · W i` over the flat positions
of the spectrum, or an expression in a few such sums. A property of a statistic under an operation on the spectrum is
then the behaviour of the sum under the operation plus a fact about the weight.
-/
import SfsModel.Spec.Stat
import SfsModel.Lemmas.StatList
import SfsModel.Lemmas.View
import SfsModel.Lemmas.SumBox
import Mathlib.Algebra.BigOperators.Ring.Finset
import Mathlib.Tactic.Ring
namespace Sfs
open Finset Sfs.Spec

section
variable {α : Type} [Field α]

theorem getD_map_mul (c : α) (x : List α) (i : Nat) : (x.map (fun v => c * v)).getD i 0 = c * x.getD i 0 :=
  getD_map _ _ _ (mul_zero c)

theorem sum_map_div {β} (l : List β) (f : β → α) (c : α) : (l.map (fun b => f b / c)).sum = (l.map f).sum / c := by
  simp only [div_eq_mul_inv, List.sum_map_mul_right]

theorem foldl_pair {β : Type} (f g : β → α) (l : List β) (z : α × α) :
    l.foldl (fun acc p => (acc.1 + f p, acc.2 + g p)) z = (z.1 + (l.map f).sum, z.2 + (l.map g).sum) := by
  induction l generalizing z with
  | nil => simp
  | cons b l ih => simp [List.foldl_cons, ih, add_assoc]

end

/-- `Σ_{i<n} d_i · W i`. The bound `n` is an argument of its own so that it can be `size shape`, `r * c` or `x.length`,
    whichever the operation at hand speaks of, without rewriting under the sum; positions past the end of `d` read `0`. -/
def sf_wsum {α} [Field α] (n : Nat) (d : List α) (W : Nat → α) : α :=
  ∑ i ∈ range n, d.getD i 0 * W i

section
variable {α : Type} [Field α]

theorem wsum_congr {n : Nat} {x y : List α} {W V : Nat → α}
    (h : ∀ i, i < n → x.getD i 0 * W i = y.getD i 0 * V i) : sf_wsum n x W = sf_wsum n y V :=
  Finset.sum_congr rfl (fun i hi => h i (mem_range.mp hi))

theorem wsum_add (n : Nat) (x : List α) (W V : Nat → α) :
    sf_wsum n x W + sf_wsum n x V = sf_wsum n x (fun i => W i + V i) := by
  simp only [sf_wsum, mul_add, Finset.sum_add_distrib]

theorem wsum_sub (n : Nat) (x : List α) (W V : Nat → α) :
    sf_wsum n x W - sf_wsum n x V = sf_wsum n x (fun i => W i - V i) := by
  simp only [sf_wsum, mul_sub, Finset.sum_sub_distrib]

theorem wsum_normalize (n : Nat) (x : List α) (W : Nat → α) :
    sf_wsum n (normalize x) W = sf_wsum n x W / sumList x := by
  rw [sf_wsum, sf_wsum, div_eq_mul_inv, Finset.sum_mul, sumList_eq_sum]
  exact Finset.sum_congr rfl (fun i _ => by rw [normalize_getD, div_eq_mul_inv, mul_right_comm])

theorem wsum_scale (n : Nat) (c : α) (x : List α) (W : Nat → α) :
    sf_wsum n (x.map (fun v => c * v)) W = c * sf_wsum n x W := by
  rw [sf_wsum, sf_wsum, Finset.mul_sum]
  exact Finset.sum_congr rfl (fun i _ => by rw [getD_map_mul, mul_assoc])

theorem wsum_mul_left (n : Nat) (x : List α) (c : α) (V W : Nat → α) (h : ∀ i, i < n → V i = c * W i) :
    sf_wsum n x V = c * sf_wsum n x W := by
  rw [sf_wsum, sf_wsum, Finset.mul_sum]
  exact Finset.sum_congr rfl (fun i hi => by rw [h i (mem_range.mp hi), mul_left_comm])

/-- the weight `w` on the cells `0 < i < n - 1`, zero on the first and the last cell -/
def onInterior {α} [Field α] (n : Nat) (w : Nat → α) (i : Nat) : α :=
  if 0 < i ∧ i + 1 < n then w i else 0

/-- the form in which `interior` hands over its sums (`interior_eq`, `interior_withIdx`) -/
theorem sum_interior_wsum (x : List α) (w : Nat → α) :
    ((List.range' 1 (x.length - 2)).map (fun i => x.getD i 0 * w i)).sum = sf_wsum x.length x (onInterior x.length w) := by
  unfold sf_wsum
  rcases x.length with _ | _ | m
  · rfl
  · rw [Finset.sum_range_one, onInterior, if_neg (by omega), mul_zero]
    rfl
  · rw [List.range'_eq_map_range, List.map_map, list_range_sum, Finset.sum_range_succ, Finset.sum_range_succ',
      onInterior, onInterior, if_neg (by omega), if_neg (by omega), mul_zero, mul_zero, add_zero, add_zero]
    refine Finset.sum_congr rfl (fun i hi => ?_)
    have := mem_range.mp hi
    rw [onInterior, if_pos (by omega), Function.comp, Nat.add_comm]

/-- `hi` is not needed; it is there so that the conclusion has the shape of the hypothesis `hW` of `wsum_foldZero`. -/
theorem onInterior_symm (n : Nat) (w : Nat → α)
    (hw : ∀ i, 0 < i → i + 1 < n → w (n - 1 - i) = w i) (i : Nat) (hi : i < n) :
    onInterior n w (n - 1 - i) = onInterior n w i := by
  unfold onInterior
  by_cases h : 0 < i ∧ i + 1 < n
  · rw [if_pos h, if_pos (by omega), hw i h.1 h.2]
  · rw [if_neg h, if_neg (by omega)]

/-- a weight that vanishes on the two corner cells anyway -/
theorem onInterior_eq_self (n : Nat) (w : Nat → α) (h0 : w 0 = 0) (hl : w (n - 1) = 0) (i : Nat) (hi : i < n) :
    onInterior n w i = w i := by
  unfold onInterior
  split
  · rfl
  · rcases (by omega : i = 0 ∨ i = n - 1) with rfl | rfl
    · exact h0.symm
    · exact hl.symm

theorem sumList_eq_wsum (x : List α) : sumList x = sf_wsum x.length x (fun _ => 1) := by
  rw [sumList_eq_sum, list_sum_eq_range]
  exact Finset.sum_congr rfl (fun i _ => (mul_one _).symm)

theorem segregating_eq_wsum (x : List α) : segregating x = sf_wsum x.length x (onInterior x.length (fun _ => 1)) := by
  rw [segregating, sumList_eq_sum, interior_eq 0]
  exact (congrArg List.sum (List.map_congr_left fun i _ => (mul_one _).symm)).trans (sum_interior_wsum x _)

theorem thetaEstimate_eq_wsum (w : Nat → Nat → α) (x : List α) :
    thetaEstimate w x = sf_wsum x.length x (onInterior x.length (fun i => w i (x.length - 1))) := by
  rw [← sum_interior_wsum]
  unfold thetaEstimate
  rw [sumList_eq_sum, interior_withIdx 0, List.map_map]
  exact congrArg List.sum (List.map_congr_left fun i _ => mul_comm _ _)

theorem freqSum_eq_wsum (w : List α → α) (a : Arr α) :
    freqSum w a = sf_wsum a.data.length a.data (fun i => w (freqs a.shape i)) := by
  rw [freqSum, sumList_eq_sum, withIdx_eq 0, List.map_map, list_range_sum]
  rfl

theorem freqSum_normalized (w : List α → α) (a : Arr α) :
    freqSum w (normalized a) = sf_wsum a.data.length a.data (fun i => w (freqs a.shape i)) / sumList a.data := by
  rw [freqSum_eq_wsum]
  show sf_wsum (normalize a.data).length (normalize a.data) _ = _
  rw [normalize_length, wsum_normalize]
  rfl

/-- weight of a cell with frequencies `p`, `q` in the numerator of Hudson's Fst -/
def fstNum (shape : List Nat) (p q : α) : α :=
  (p - q) * (p - q) - p * (1 - p) / (((shape.getD 0 0 : Nat) : α) - ((2 : Nat) : α))
    - q * (1 - q) / (((shape.getD 1 0 : Nat) : α) - ((2 : Nat) : α))

/-- … and in the denominator -/
def fstDen (p q : α) : α := p * (1 - q) + q * (1 - p)

/-- replacing both frequencies by their complements (the fold) changes neither weight -/
theorem fstNum_compl (shape : List Nat) (p q : α) : fstNum shape (1 - p) (1 - q) = fstNum shape p q := by
  unfold fstNum
  ring

theorem fstDen_compl (p q : α) : fstDen (1 - p) (1 - q) = fstDen p q := by
  unfold fstDen
  ring

/-- exchanging the two populations changes neither weight (for `fstDen` this is `add_comm`) -/
theorem fstNum_swap (r c : Nat) (p q : α) : fstNum [c, r] q p = fstNum [r, c] p q := by
  simp only [fstNum, List.getD_cons_zero, List.getD_cons_succ]
  ring

theorem fstParts_eq_wsum (a : Arr α) :
    fstParts a =
      (sf_wsum a.data.length a.data
        (onInterior a.data.length (fun i => fstNum a.shape (nth (freqs a.shape i) 0) (nth (freqs a.shape i) 1))),
       sf_wsum a.data.length a.data
        (onInterior a.data.length (fun i => fstDen (nth (freqs a.shape i) 0) (nth (freqs a.shape i) 1)))) := by
  rw [← sum_interior_wsum, ← sum_interior_wsum]
  refine (foldl_pair (fun p : Nat × α => p.2 * fstNum a.shape (nth (freqs a.shape p.1) 0) (nth (freqs a.shape p.1) 1))
    (fun p : Nat × α => p.2 * fstDen (nth (freqs a.shape p.1) 0) (nth (freqs a.shape p.1) 1)) _ _).trans ?_
  rw [interior_withIdx 0, List.map_map, List.map_map, zero_add, zero_add]
  rfl

theorem fstParts_normalized (a : Arr α) :
    fstParts (normalized a) = ((fstParts a).1 / sumList a.data, (fstParts a).2 / sumList a.data) := by
  rw [fstParts_eq_wsum a, ← wsum_normalize, ← wsum_normalize, ← normalize_length]
  exact fstParts_eq_wsum (normalized a)

/-- The normalisation cancels in the quotient. -/
theorem statFst_normalized (a : Arr α) (hs : sumList a.data ≠ 0) : statFst (normalized a) = statFst a := by
  rw [statFst, fstParts_normalized]
  exact div_div_div_cancel_right₀ hs _ _

/-- the weight of cell `k` (row-major, `c` columns) in the numerator of pi_xy -/
def pixyW (r c k : Nat) : α := ((k / c * ((c - 1) - k % c) + k % c * ((r - 1) - k / c) : Nat) : α)

theorem statPiXY_eq_wsum (a : Arr α) (r c : Nat) (hs : a.shape = [r, c]) (hl : a.data.length = r * c)
    (hr : 1 ≤ r) (hc : 1 ≤ c) :
    statPiXY a = sf_wsum (r * c) a.data (onInterior (r * c) (pixyW r c)) / (((r - 1) * (c - 1) : Nat) : α) := by
  rw [← hl, ← sum_interior_wsum]
  unfold statPiXY
  simp only [hs, List.getD_cons_zero, List.getD_cons_succ, Nat.sub_add_cancel hr, Nat.sub_add_cancel hc]
  rw [flatMap_range (fun m1 m2 => (m1, m2)) r c, take_drop_eq_interior (by rw [List.length_map, List.length_range, hl]),
    interior_map, interior_range, sumList_eq_sum, List.map_map, ← hl]
  congr 2
  refine List.map_congr_left fun k _ => ?_
  simp only [Function.comp, nth, pixyW, Nat.div_add_mod']

theorem pixyW_cell (r c q t : Nat) (ht : t < c) :
    pixyW (α := α) r c (q * c + t) = ((q * (c - 1 - t) + t * (r - 1 - q) : Nat) : α) := by
  have d := mul_add_div_mod q t c ht
  rw [pixyW, d.1, d.2]

/-- cell `[q, t]` and its mirror partner `[r - 1 - q, c - 1 - t]` have the same weight -/
theorem pixyW_rev (r c i : Nat) (h : i < r * c) : pixyW (α := α) r c (r * c - 1 - i) = pixyW r c i := by
  obtain ⟨q, t, hq, ht, rfl⟩ := exists_eq_mul_add h
  have e := flat_mirror [r, c] [q, t] ⟨hq, ht, trivial⟩
  simp only [mirror, flat_pair, size_pair] at e
  rw [← e, pixyW_cell r c q t ht, pixyW_cell r c _ _ (by omega), Nat.sub_sub_self (Nat.le_sub_one_of_lt ht),
    Nat.sub_sub_self (Nat.le_sub_one_of_lt hq), Nat.mul_comm (r - 1 - q), Nat.mul_comm (c - 1 - t), Nat.add_comm]

theorem pixyW_zero (r c : Nat) : pixyW (α := α) r c 0 = 0 := by
  simp only [pixyW, Nat.zero_div, Nat.zero_mod, Nat.zero_mul, Nat.add_zero, Nat.cast_zero]

theorem pixyW_last (r c : Nat) (h : 0 < r * c) : pixyW (α := α) r c (r * c - 1) = 0 :=
  (pixyW_rev r c 0 h).trans (pixyW_zero r c)

/-- per-axis frequencies of a multi-index -/
def freqsOf (s k : List Nat) : List α := (List.zip k s).map (fun p => ((p.1 : Nat) : α) / ((p.2 - 1 : Nat) : α))

theorem freqsOf_length (s k : List Nat) (h : k.length = s.length) : (freqsOf (α := α) s k).length = s.length := by
  rw [freqsOf, List.length_map, List.length_zip, h, Nat.min_self]

theorem freqs_eq (s : List Nat) (i : Nat) (h : i < size s) : freqs (α := α) s i = freqsOf s (unflat s i) := by
  rw [freqs, indexFromFlat_eq s i h, freqsOf]

/-- `k_j / (s_j - 1)`, also where `j` is not an axis: both sides are then `0` (in a field `x / 0 = 0`). -/
theorem nth_freqsOf : ∀ (s k : List Nat) (j : Nat),
    nth (freqsOf (α := α) s k) j = ((k.getD j 0 : Nat) : α) / ((s.getD j 0 - 1 : Nat) : α)
  | _, [], j => by simp only [freqsOf, nth, List.zip_nil_left, List.map_nil, List.getD_nil, Nat.cast_zero, zero_div]
  | [], _ :: _, j => by
    simp only [freqsOf, nth, List.zip_nil_right, List.map_nil, List.getD_nil, Nat.zero_sub, Nat.cast_zero, div_zero]
  | _ :: _, _ :: _, 0 => rfl
  | _ :: s, _ :: k, j + 1 => nth_freqsOf s k j

/-- `Σ_k x_k · W k` over all positions as a `List.sum` -/
def sr_fsum (x : List α) (W : Nat → α) : α := ((List.range x.length).map (fun k => x.getD k 0 * W k)).sum

theorem sr_fsum_eq_wsum (x : List α) (W : Nat → α) : sr_fsum x W = sf_wsum x.length x W :=
  list_range_sum _ _

theorem sr_fsum_congr (x y : List α) (W V : Nat → α) (hl : x.length = y.length)
    (h : ∀ k, k < x.length → x.getD k 0 * W k = y.getD k 0 * V k) : sr_fsum x W = sr_fsum y V := by
  rw [sr_fsum_eq_wsum, sr_fsum_eq_wsum, ← hl]
  exact wsum_congr h

theorem sr_fsum_scale (c : α) (x : List α) (W : Nat → α) : sr_fsum (x.map (fun v => c * v)) W = c * sr_fsum x W := by
  rw [sr_fsum_eq_wsum, sr_fsum_eq_wsum, List.length_map, wsum_scale]

theorem sr_normalize_eq (x : List α) : normalize x = x.map (fun v => v / sumList x) := rfl

end

end Sfs
