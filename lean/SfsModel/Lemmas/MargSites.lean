/-
The marginal of the spectrum of a list of sites is the spectrum of the sites with the removed coordinates dropped:
a cell of the marginal is an indicator sum over the cells of the spectrum, so by `wsum_spectrum` it counts the sites
whose dropped index is that cell.
-/
import SfsModel.Lemmas.Marginalize
import SfsModel.Lemmas.StatGeno
namespace Sfs
open Sfs.C06

variable {α : Type} [Field α]

theorem IsMarg.counts {A : List Nat} {a b : Arr α} (hb : IsMarg A a b) (ks : List (List Nat))
    (h : IsSpectrumOf a.shape ks a.data) (k' : List Nat) (hk : InB (dropIdx A a.shape) k') :
    b.data.getD (flat (dropIdx A a.shape) k') 0
      = (((ks.filter (fun k => decide (dropIdx A k = k'))).length : Nat) : α) := by
  have e := wsum_spectrum a.shape ks a.data h (fun f => if dropIdx A (unflat a.shape f) = k' then 1 else 0)
  simp only [sf_wsum, mul_ite, mul_one, mul_zero] at e
  rw [hb.2, getD_range_map, if_pos (flat_lt _ _ hk), unflat_flat _ _ hk, e, ← sum_indicator]
  refine congrArg List.sum (List.map_congr_left fun k hk => ?_)
  rw [unflat_flat _ _ (h.inB hk)]
  simp only [decide_eq_true_eq]

theorem IsMarg.isSpectrumOf {A : List Nat} {a b : Arr α} (hb : IsMarg A a b) (ks : List (List Nat))
    (h : IsSpectrumOf a.shape ks a.data) :
    IsSpectrumOf (dropIdx A a.shape) (ks.map (dropIdx A)) b.data := by
  refine ⟨by rw [hb.data_length, hb.1], fun k hk => ?_, fun k' hk => ?_⟩
  · obtain ⟨k0, hk0, rfl⟩ := List.mem_map.mp hk
    exact dropIdx_inB A (h.inB hk0)
  · rw [hb.counts ks h k' hk, count_map_eq_length_filter]

end Sfs
