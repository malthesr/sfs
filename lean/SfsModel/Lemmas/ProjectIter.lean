/-
`Spectrum::project` up to its kernel: validation (`ProjOk`), the odometer of the projection iterator (the view odometer
with the offsets forgotten), the accumulation loop; `project_eq`: on a valid target `project` is the matrix `C03.coeff`
applied to the data.
-/
import SfsModel.Model.Spectrum
import SfsModel.Lemmas.SumBox
import SfsModel.Lemmas.SumAxis
import Mathlib.Algebra.Field.Defs
namespace Sfs
open Finset

/-! Shapes (entries `≥ 1`) and count vectors (entries one less): list facts the validation and the kernel laws use. -/

theorem pos_iff_zero_not_mem {s : List Nat} : (∀ v ∈ s, 0 < v) ↔ 0 ∉ s :=
  ⟨fun h h0 => Nat.lt_irrefl 0 (h 0 h0), fun h _ hv => Nat.pos_of_ne_zero fun e => h (e ▸ hv)⟩

theorem getD_map_pred (s : List Nat) (j : Nat) : (s.map (· - 1)).getD j 0 = s.getD j 0 - 1 :=
  getD_map (· - 1) s j rfl

theorem getD_pos_of_mem (s : List Nat) (j : Nat) (hp : ∀ v ∈ s, 0 < v) (h : j < s.length) : 0 < s.getD j 0 := by
  rw [List.getD_eq_getElem?_getD, List.getElem?_eq_getElem h]
  exact hp _ (List.getElem_mem h)

theorem map_pred_succ : ∀ (s : List Nat), (∀ v ∈ s, 0 < v) → (s.map (· - 1)).map (· + 1) = s
  | [], _ => rfl
  | v :: s, h => by
    have hv := h v (by simp)
    have := map_pred_succ s (fun w hw => h w (by simp [hw]))
    simp only [List.map_cons, this]
    congr 1; omega

theorem forall₂_le_of_getD : ∀ {ms ns : List Nat}, ms.length = ns.length →
    (∀ j, j < ms.length → ms.getD j 0 ≤ ns.getD j 0) → List.Forall₂ (· ≤ ·) ms ns
  | [], [], _, _ => .nil
  | _ :: _, _ :: _, hl, h =>
    .cons (h 0 (Nat.succ_pos _)) (forall₂_le_of_getD (Nat.succ.inj hl) fun j hj => h (j + 1) (Nat.succ_lt_succ hj))
  | [], _ :: _, hl, _ => nomatch hl
  | _ :: _, [], hl, _ => nomatch hl

theorem countOfShape_eq : ∀ s, countOfShape s = if 0 ∈ s then none else some (s.map (· - 1))
  | [] => rfl
  | v :: s => by
    rw [countOfShape, countOfShape_eq s]
    by_cases hv : v = 0
    · subst hv; rw [if_pos rfl, if_pos List.mem_cons_self]
    · by_cases hs : 0 ∈ s
      · rw [if_neg hv, if_pos hs, if_pos (List.mem_cons_of_mem _ hs)]; rfl
      · rw [if_neg hv, if_neg hs, if_neg (fun h => (List.mem_cons.mp h).elim (fun e => hv e.symm) hs)]; rfl

theorem countOfShape_some_iff (s c : List Nat) :
    countOfShape s = some c ↔ (∀ v ∈ s, 0 < v) ∧ c = s.map (· - 1) := by
  rw [countOfShape_eq, pos_iff_zero_not_mem]
  split
  · next h => exact ⟨fun e => (nomatch e), fun e => absurd h e.1⟩
  · next h => exact ⟨fun e => ⟨h, (Option.some.inj e).symm⟩, fun e => e.2 ▸ rfl⟩

theorem countOfShape_none_iff (s : List Nat) : countOfShape s = none ↔ 0 ∈ s := by
  rw [countOfShape_eq]
  split
  · next h => exact ⟨fun _ => h, fun _ => rfl⟩
  · next h => exact ⟨fun e => (nomatch e), fun e => absurd e h⟩

theorem firstSmaller_none_iff : ∀ (f t : List Nat) (i : Nat), f.length = t.length →
    (firstSmaller f t i = none ↔ ∀ j, j < t.length → t.getD j 0 ≤ f.getD j 0)
  | [], [], i, _ => ⟨fun _ _ hj => absurd hj (Nat.not_lt_zero _), fun _ => rfl⟩
  | a :: f, b :: t, i, h => by
    rw [firstSmaller]
    by_cases hab : a < b
    · rw [if_pos hab]
      exact ⟨fun h => (nomatch h), fun h => absurd (h 0 (Nat.succ_pos _)) (Nat.not_le_of_lt hab)⟩
    · rw [if_neg hab, firstSmaller_none_iff f t (i + 1) (Nat.succ.inj h)]
      refine ⟨fun h j hj => ?_, fun h j hj => h (j + 1) (Nat.succ_lt_succ hj)⟩
      cases j with
      | zero => exact Nat.le_of_not_lt hab
      | succ j => exact h j (Nat.lt_of_succ_lt_succ hj)
  | [], _ :: _, _, h => nomatch h
  | _ :: _, [], _, h => nomatch h

theorem firstSmaller_some : ∀ (f t : List Nat) (i j : Nat), f.length = t.length → j < t.length →
    f.getD j 0 < t.getD j 0 → (∀ k, k < j → t.getD k 0 ≤ f.getD k 0) →
    firstSmaller f t i = some (i + j, f.getD j 0, t.getD j 0)
  | a :: f, b :: t, i, 0, _, _, hlt, _ => by
    rw [firstSmaller, if_pos (show a < b from hlt)]; rfl
  | a :: f, b :: t, i, j + 1, h, hj, hlt, hfirst => by
    rw [firstSmaller, if_neg (Nat.not_lt_of_le (show b ≤ a from hfirst 0 (Nat.succ_pos _))),
      firstSmaller_some f t (i + 1) j (Nat.succ.inj h) (Nat.lt_of_succ_lt_succ hj) hlt
        (fun k hk => hfirst (k + 1) (Nat.succ_lt_succ hk)), Nat.add_right_comm, Nat.add_assoc]
    rfl
  | [], [], _, _, _, hj, _, _ => absurd hj (Nat.not_lt_zero _)
  | [], _ :: _, _, _, h, _, _, _ => nomatch h
  | _ :: _, [], _, _, h, _, _, _ => nomatch h

/-- The four conditions under which validation succeeds. -/
def ProjOk (fs ts : List Nat) : Prop :=
  fs.length = ts.length ∧ (∀ v ∈ fs, 0 < v) ∧ (∀ v ∈ ts, 0 < v) ∧
    ∀ j, j < ts.length → ts.getD j 0 ≤ fs.getD j 0

theorem ProjOk.length_eq {fs ts : List Nat} (h : ProjOk fs ts) : fs.length = ts.length := h.1

theorem ProjOk.from_pos {fs ts : List Nat} (h : ProjOk fs ts) : ∀ v ∈ fs, 0 < v := h.2.1

theorem ProjOk.to_pos {fs ts : List Nat} (h : ProjOk fs ts) : ∀ v ∈ ts, 0 < v := h.2.2.1

theorem ProjOk.le {fs ts : List Nat} (h : ProjOk fs ts) : ∀ j, j < ts.length → ts.getD j 0 ≤ fs.getD j 0 := h.2.2.2

theorem ProjOk.cons_iff {v w : Nat} {fs ts : List Nat} :
    ProjOk (v :: fs) (w :: ts) ↔ (0 < v ∧ 0 < w ∧ w ≤ v) ∧ ProjOk fs ts := by
  simp only [ProjOk, List.length_cons, Nat.add_right_cancel_iff, List.forall_mem_cons, Nat.forall_lt_succ_left,
    List.getD_cons_zero, List.getD_cons_succ]
  exact ⟨fun ⟨hl, ⟨hv, hf⟩, ⟨hw, ht⟩, hle, h⟩ => ⟨⟨hv, hw, hle⟩, hl, hf, ht, h⟩,
    fun ⟨⟨hv, hw, hle⟩, hl, hf, ht, h⟩ => ⟨hl, ⟨hv, hf⟩, ⟨hw, ht⟩, hle, h⟩⟩

namespace C03
variable {α : Type} [Field α]

/-- The coefficient of the projection operator: product over axes of the pmfs. -/
def coeff (fromShape toShape : List Nat) (f t : Nat) : α :=
  projectValue (fromShape.map (· - 1)) (unflat fromShape f) (toShape.map (· - 1)) (unflat toShape t)

end C03

theorem projectionNew_of_pos (fs ts : List Nat) (h0 : 0 ∉ fs) (h1 : 0 ∉ ts) :
    projectionNew fs ts =
      if fs.length = ts.length then
        match firstSmaller (fs.map (· - 1)) (ts.map (· - 1)) 0 with
        | some (d, a, b) => .error (.invalidProjection d a b)
        | none => .ok (fs.map (· - 1), ts.map (· - 1))
      else if fs.length = 0 then .error .empty
      else .error (.unequalDimensions fs.length ts.length) := by
  rw [projectionNew, countOfShape_eq, countOfShape_eq, if_neg h0, if_neg h1]
  simp only [List.length_map]
  rfl

theorem projectionNew_zero (fs ts : List Nat) (h : 0 ∈ fs ∨ 0 ∈ ts) :
    projectionNew fs ts = .error .zero := by
  rw [projectionNew, countOfShape_eq, countOfShape_eq]
  rcases h with h | h
  · rw [if_pos h]
  · by_cases hf : 0 ∈ fs
    · rw [if_pos hf]
    · rw [if_pos h, if_neg hf]

theorem projectionNew_dimension (fs ts : List Nat) (h0 : 0 ∉ fs) (h1 : 0 ∉ ts)
    (hd : fs.length ≠ ts.length) (hne : fs ≠ []) :
    projectionNew fs ts = .error (.unequalDimensions fs.length ts.length) := by
  rw [projectionNew_of_pos fs ts h0 h1, if_neg hd, if_neg (mt List.length_eq_zero_iff.mp hne)]

theorem getD_pred_le_iff {fs ts : List Nat} (h0 : 0 ∉ fs) (h1 : 0 ∉ ts) (hl : fs.length = ts.length) (j : Nat)
    (hj : j < ts.length) :
    (ts.map (· - 1)).getD j 0 ≤ (fs.map (· - 1)).getD j 0 ↔ ts.getD j 0 ≤ fs.getD j 0 := by
  have := getD_pos_of_mem ts j (pos_iff_zero_not_mem.mpr h1) hj
  have := getD_pos_of_mem fs j (pos_iff_zero_not_mem.mpr h0) (hl ▸ hj)
  rw [getD_map_pred, getD_map_pred]
  omega

theorem projectionNew_larger (fs ts : List Nat) (h0 : 0 ∉ fs) (h1 : 0 ∉ ts)
    (hd : fs.length = ts.length) (j : Nat) (hj : j < ts.length)
    (hlt : fs.getD j 0 < ts.getD j 0) (hfirst : ∀ i, i < j → ts.getD i 0 ≤ fs.getD i 0) :
    projectionNew fs ts = .error (.invalidProjection j (fs.getD j 0 - 1) (ts.getD j 0 - 1)) := by
  rw [projectionNew_of_pos fs ts h0 h1, if_pos hd,
    firstSmaller_some _ _ 0 j (by rw [List.length_map, List.length_map, hd]) (by rwa [List.length_map])
      (Nat.lt_of_not_le (mt (getD_pred_le_iff h0 h1 hd j hj).mp (Nat.not_le_of_lt hlt)))
      (fun k hk => (getD_pred_le_iff h0 h1 hd k (Nat.lt_trans hk hj)).mpr (hfirst k hk)),
    getD_map_pred, getD_map_pred, Nat.zero_add]

theorem projectionNew_eq_ok_iff (fs ts : List Nat) (p : List Nat × List Nat) :
    projectionNew fs ts = .ok p ↔ ProjOk fs ts ∧ p = (fs.map (· - 1), ts.map (· - 1)) := by
  -- exits in order: a zero entry, unequal lengths, an axis that grows
  by_cases hz : 0 ∈ fs ∨ 0 ∈ ts
  · rw [projectionNew_zero fs ts hz]
    exact ⟨fun h => (nomatch h), fun h => absurd hz
      (not_or.mpr ⟨pos_iff_zero_not_mem.mp h.1.from_pos, pos_iff_zero_not_mem.mp h.1.to_pos⟩)⟩
  · obtain ⟨h0, h1⟩ := not_or.mp hz
    rw [projectionNew_of_pos fs ts h0 h1]
    by_cases hl : fs.length = ts.length
    · -- the model compares counts, `ProjOk` shapes: `getD_pred_le_iff`
      have hnone := firstSmaller_none_iff (fs.map (· - 1)) (ts.map (· - 1)) 0
        (by rw [List.length_map, List.length_map, hl])
      rw [List.length_map] at hnone
      rw [if_pos hl]
      cases hs : firstSmaller (fs.map (· - 1)) (ts.map (· - 1)) 0 with
      | none =>
        exact ⟨fun h => ⟨⟨hl, pos_iff_zero_not_mem.mpr h0, pos_iff_zero_not_mem.mpr h1,
          fun j hj => (getD_pred_le_iff h0 h1 hl j hj).mp (hnone.mp hs j hj)⟩, (Except.ok.inj h).symm⟩, fun h => h.2 ▸ rfl⟩
      | some q =>
        refine ⟨fun h => (nomatch h), fun h => ?_⟩
        have := hnone.mpr fun j hj => (getD_pred_le_iff h0 h1 hl j hj).mpr (h.1.le j hj)
        rw [hs] at this
        cases this
    · rw [if_neg hl]
      refine ⟨fun h => ?_, fun h => absurd h.1.length_eq hl⟩
      split at h <;> cases h

theorem InB.forall₂_lt : ∀ {s idx : List Nat}, InB s idx → List.Forall₂ (· < ·) idx s
  | [], [], _ => .nil
  | _ :: _, _ :: _, h => .cons h.1 (InB.forall₂_lt h.2)
  | [], _ :: _, h => h.elim
  | _ :: _, [], h => h.elim

theorem InB.le_pred {s idx : List Nat} (h : InB s idx) : List.Forall₂ (· ≤ ·) idx (s.map (· - 1)) :=
  List.forall₂_map_right_iff.mpr (h.forall₂_lt.imp fun _ _ => Nat.le_sub_one_of_lt)

theorem InB.le_of_succ {ns ks : List Nat} (h : InB (ns.map (· + 1)) ks) : List.Forall₂ (· ≤ ·) ks ns :=
  (List.forall₂_map_right_iff.mp h.forall₂_lt).imp fun _ _ => Nat.le_of_lt_succ

theorem ProjOk.le_pred {fs ts : List Nat} (h : ProjOk fs ts) :
    List.Forall₂ (· ≤ ·) (ts.map (· - 1)) (fs.map (· - 1)) :=
  forall₂_le_of_getD (by rw [List.length_map, List.length_map, h.length_eq]) fun j hj => by
    rw [getD_map_pred, getD_map_pred]
    exact Nat.sub_le_sub_right (h.le j (by rwa [List.length_map] at hj)) 1

theorem ProjOk.trans {fs ms ts : List Nat} (h1 : ProjOk fs ms) (h2 : ProjOk ms ts) : ProjOk fs ts :=
  ⟨h1.length_eq.trans h2.length_eq, h1.from_pos, h2.to_pos,
    fun j hj => Nat.le_trans (h2.le j hj) (h1.le j (h2.length_eq ▸ hj))⟩

section proj
variable {α : Type} [Add α] [Mul α] [Div α] [NatCast α] [OfNat α 0] [OfNat α 1]

theorem project_of_error (a : Arr α) (toShape : List Nat) (e : ProjErr)
    (h : projectionNew a.shape toShape = .error e) : project a toShape = .error e := by
  unfold project; rw [h]

theorem project_of_ok (a : Arr α) (toShape pf pt : List Nat)
    (h : projectionNew a.shape toShape = .ok (pf, pt)) :
    project a toShape = .ok ⟨(List.range a.data.length).foldl
      (fun acc f => addProjected acc (projectIter pf (indexFromFlat a.shape f) pt) (a.data.getD f 0))
      (List.replicate (size toShape) 0), toShape⟩ := by
  unfold project; rw [h]

theorem project_isOk_iff (a : Arr α) (toShape : List Nat) :
    (∃ b, project a toShape = .ok b) ↔ ProjOk a.shape toShape := by
  cases h : projectionNew a.shape toShape with
  | error e =>
    rw [project_of_error a toShape e h]
    refine ⟨fun ⟨_, hb⟩ => (nomatch hb), fun hok => ?_⟩
    rw [(projectionNew_eq_ok_iff a.shape toShape _).mpr ⟨hok, rfl⟩] at h
    cases h
  | ok p =>
    rw [project_of_ok a toShape p.1 p.2 h]
    exact ⟨fun _ => ((projectionNew_eq_ok_iff a.shape toShape _).mp h).1, fun _ => ⟨_, rfl⟩⟩

end proj

/-- Strides and offset are arbitrary: `stepR` consults them only for the offset it returns, which is dropped here. -/
theorem projStepR_eq_stepR : ∀ (mR tR stR : List Nat) (off : Nat), mR.length = stR.length →
    projStepR mR tR = (stepR (mR.map (· + 1)) stR tR off).map (·.1)
  | m :: ms, t :: ts, st :: sts, off, h => by
    have ih := projStepR_eq_stepR ms ts sts (off - st * (m + 1 - 1)) (Nat.succ.inj h)
    simp only [projStepR, List.map_cons, stepR, Nat.add_lt_add_iff_right, ih]
    by_cases hc : t + 1 ≤ m
    · rw [if_pos hc, if_pos (Nat.lt_of_succ_le hc)]; rfl
    · rw [if_neg hc, if_neg (fun h => hc (Nat.succ_le_of_lt h))]
      cases stepR (ms.map (· + 1)) sts ts _ <;> rfl
  | [], _, [], _, _ => by simp [projStepR, stepR]
  | _ :: _, [], _ :: _, _, _ => by simp [projStepR, stepR]
  | [], _, _ :: _, _, h => nomatch h
  | _ :: _, _, [], _, h => nomatch h

theorem projStepR_spec (pt : List Nat) (k : Nat) (hk : k < size (pt.map (· + 1))) :
    projStepR pt.reverse (unflat (pt.map (· + 1)) k).reverse
      = if k + 1 < size (pt.map (· + 1)) then some (unflat (pt.map (· + 1)) (k + 1)).reverse else none := by
  have hpos : ∀ w ∈ pt.map (· + 1), 0 < w := size_pos_iff.1 (Nat.zero_lt_of_lt hk)
  -- `pt.reverse` serves as strides only because it has the right length
  rw [← unflatR_reverse _ k hpos hk, projStepR_eq_stepR pt.reverse _ pt.reverse _ rfl, List.map_reverse,
    stepR_spec _ pt.reverse k (by simp) (fun w hw => hpos w (List.mem_reverse.mp hw)) (by rwa [size_reverse]), size_reverse]
  split
  · next h => rw [unflatR_reverse _ _ hpos h]; rfl
  · rfl

section iter
variable {α : Type} [Mul α] [Div α] [NatCast α] [OfNat α 0] [OfNat α 1]

theorem projectIterGo_eq (pf from_ pt : List Nat) : ∀ (fuel k : Nat), k + fuel = size (pt.map (· + 1)) →
    (projectIterGo pf from_ pt fuel (unflat (pt.map (· + 1)) k).reverse : List α)
      = (List.range' k fuel).map (fun t => projectValue pf from_ pt (unflat (pt.map (· + 1)) t))
  | 0, _, _ => rfl
  | fuel + 1, k, h => by
    rw [projectIterGo, List.reverse_reverse, projStepR_spec pt k (by omega), List.range'_succ, List.map_cons]
    congr 1
    by_cases hn : k + 1 < size (pt.map (· + 1))
    · rw [if_pos hn]
      exact projectIterGo_eq pf from_ pt fuel (k + 1) (by omega)
    · obtain rfl : fuel = 0 := by omega
      rw [if_neg hn]
      rfl

theorem projectIter_eq (pf from_ pt : List Nat) :
    (projectIter pf from_ pt : List α)
      = (List.range (size (pt.map (· + 1)))).map
          (fun t => projectValue pf from_ pt (unflat (pt.map (· + 1)) t)) := by
  rw [List.range_eq_range', ← projectIterGo_eq pf from_ pt _ 0 (Nat.zero_add _), unflat_zero, List.reverse_replicate,
    List.length_map]
  rfl

end iter

theorem addProjected_eq {α} [Add α] [Mul α] (acc p : List α) (w : α) :
    addProjected acc p w
      = List.zipWith (· + ·) acc (p.map (· * w)) ++ acc.drop (p.map (· * w)).length := by
  rw [addProjected, List.zipWith_map_right, List.length_map]

theorem addProjected_range {α} [Add α] [Mul α] (M : Nat) (g h : Nat → α) (w : α) :
    addProjected ((List.range M).map g) ((List.range M).map h) w
      = (List.range M).map (fun t => g t + h t * w) := by
  rw [addProjected_eq, List.map_map]
  exact zipWith_add_range M g _

section field
variable {α : Type} [Field α]

theorem project_fold (s : List Nat) (x : List α) (pf pt : List Nat) :
    (List.range (size s)).foldl
        (fun acc f => addProjected acc (projectIter pf (indexFromFlat s f) pt) (x.getD f 0))
        (List.replicate (size (pt.map (· + 1))) (0 : α))
      = (List.range (size (pt.map (· + 1)))).map (fun t =>
          ∑ f ∈ Finset.range (size s), x.getD f 0 * projectValue pf (unflat s f) pt (unflat (pt.map (· + 1)) t)) := by
  -- the same accumulation of rows into zeros as `Array::sum`; row `f` is the iterator's output times `x[f]`
  rw [← foldl_zipWith_range]
  refine List.foldl_ext _ _ _ fun acc f hf => ?_
  rw [addProjected_eq, projectIter_eq, indexFromFlat_eq s f (List.mem_range.mp hf), List.map_map]
  simp only [Function.comp_def, mul_comm]

theorem project_eq (a : Arr α) (toShape : List Nat) (hlen : a.data.length = size a.shape)
    (hok : ProjOk a.shape toShape) :
    project a toShape = .ok ⟨(List.range (size toShape)).map (fun t =>
      ∑ f ∈ Finset.range (size a.shape), a.data.getD f 0 * C03.coeff a.shape toShape f t), toShape⟩ := by
  have hf := project_fold a.shape a.data (a.shape.map (· - 1)) (toShape.map (· - 1))
  rw [map_pred_succ toShape hok.to_pos] at hf
  rw [project_of_ok a toShape _ _ ((projectionNew_eq_ok_iff a.shape toShape _).mpr ⟨hok, rfl⟩), hlen, hf]
  rfl

theorem project_spec (a b : Arr α) (toShape : List Nat) (hlen : a.data.length = size a.shape)
    (h : project a toShape = .ok b) :
    ProjOk a.shape toShape ∧ b.shape = toShape ∧
    b.data = (List.range (size toShape)).map (fun t =>
      ∑ f ∈ Finset.range (size a.shape), a.data.getD f 0 * C03.coeff a.shape toShape f t) := by
  have hok : ProjOk a.shape toShape := (project_isOk_iff a toShape).mp ⟨b, h⟩
  rw [project_eq a toShape hlen hok] at h
  cases h
  exact ⟨hok, rfl, rfl⟩

end field
end Sfs
