/-
For Props/C01V.lean: `sampleGt` with GT the first key in closed form (only the first value of a `:`-separated sample field
counts), the two phasing separators under `parseGT` and `sampleGt`, and the only place where `parseVcfRecord` looks at the INFO column.
-/
import SfsModel.Lemmas.VcfText
import SfsModel.Lemmas.GtGrammar
namespace Sfs

/-- With GT the first key a sample field counts up to its first colon only; the lone `.` is the missing genotype (and so is
    a GT value `.`: `parseGT` reads it as no alleles). -/
theorem sampleGt_zero (field : List Nat) :
    sampleGt (some 0) field = if field = [46] then some (.skipped .missing)
      else (parseGT ((field.takeWhile (· ≠ 58)).map Char.ofNat)).map classifyField := by
  unfold sampleGt
  dsimp only
  split
  · rfl
  · rw [splitBytes_head]
    dsimp only
    cases parseGT ((field.takeWhile (· ≠ 58)).map Char.ofNat) <;> rfl

theorem append_sep_ne_dot (a b : List Nat) {x : Nat} (hx : x ≠ 46) : a ++ x :: b ≠ [46] := fun h =>
  hx (List.mem_singleton.1 (h ▸ List.mem_append_right a List.mem_cons_self))

theorem sampleGt_append_values (gt : List Nat) (h58 : 58 ∉ gt) (extra : List (List Nat)) :
    sampleGt (some 0) (gt ++ extra.flatMap (fun v => 58 :: v)) = sampleGt (some 0) gt := by
  cases extra with
  | nil => rw [List.flatMap_nil, List.append_nil]
  | cons e es =>
    have hp : ∀ b ∈ gt, decide (b ≠ 58) = true := fun b hb => decide_eq_true fun h => h58 (h ▸ hb)
    have h1 := (takeWhile_append_stop (· ≠ 58) gt (58 :: (e ++ es.flatMap (fun v => 58 :: v))) hp
      (fun x hx => by cases hx; rfl)).1
    have h2 := (takeWhile_append_stop (· ≠ 58) gt [] hp nofun).1
    rw [List.append_nil] at h2
    rw [List.flatMap_cons, List.cons_append, sampleGt_zero, sampleGt_zero, h1, h2,
      if_neg (append_sep_ne_dot gt _ (by decide))]
    split
    · next hg => subst hg; rfl
    · rfl

theorem parseGT_sep (a b : List Char) : parseGT (a ++ '/' :: b) = parseGT (a ++ '|' :: b) := by
  rw [← parseGT_map_unphase (a ++ '/' :: b), ← parseGT_map_unphase (a ++ '|' :: b)]
  simp [unphase]

/-- the part of a field before the first `:`: either the two spellings agree on it, or it holds the separator in question -/
theorem takeWhile_sep (p : Nat → Bool) (x y : Nat) (hx : p x = true) (hy : p y = true) (a b : List Nat) :
    (a ++ x :: b).takeWhile p = (a ++ y :: b).takeWhile p ∨
      ∃ a' b', (a ++ x :: b).takeWhile p = a' ++ x :: b' ∧ (a ++ y :: b).takeWhile p = a' ++ y :: b' := by
  induction a with
  | nil => exact .inr ⟨[], b.takeWhile p, by simp [hx], by simp [hy]⟩
  | cons h t ih =>
    cases hp : p h with
    | false => exact .inl (by simp [hp])
    | true =>
      rcases ih with ih | ⟨a', b', e1, e2⟩
      · exact .inl (by simp [hp, ih])
      · exact .inr ⟨h :: a', b', by simp [hp, e1], by simp [hp, e2]⟩

theorem sampleGt_sep (a b : List Nat) : sampleGt (some 0) (a ++ 47 :: b) = sampleGt (some 0) (a ++ 124 :: b) := by
  rw [sampleGt_zero, sampleGt_zero, if_neg (append_sep_ne_dot a b (by decide)), if_neg (append_sep_ne_dot a b (by decide))]
  rcases takeWhile_sep (fun b => decide (b ≠ 58)) 47 124 (by decide) (by decide) a b with e | ⟨a', b', e1, e2⟩
  · rw [e]
  · rw [e1, e2]
    have c1 : Char.ofNat 47 = '/' := rfl
    have c2 : Char.ofNat 124 = '|' := rfl
    simp only [List.map_append, List.map_cons, c1, c2, parseGT_sep]

/-- the one test `parseVcfRecord` makes on the INFO column -/
def infoRefused (info : List Nat) : Prop :=
  info.isEmpty ∨ (info ≠ [46] ∧ hasDupEntry ((splitBytes 59 info).map (fun f => f.takeWhile (· ≠ 61))))

theorem infoRefused_false (info : List Nat) (hne : info ≠ [])
    (h : info = [46] ∨ hasDupEntry ((splitBytes 59 info).map (fun f => f.takeWhile (· ≠ 61))) = false) :
    ¬ infoRefused info := by
  rintro (h0 | ⟨h1, h2⟩)
  · exact hne (List.isEmpty_iff.1 h0)
  · rcases h with h | h
    · exact h1 h
    · rw [h] at h2; exact absurd h2 (by decide)

theorem parseVcfRecord_info (n prev : Nat) (chrom pos id ref alt qual filter info info' format : List Nat)
    (samples : List (List Nat))
    (hf : ∀ f ∈ [chrom, pos, id, ref, alt, qual, filter, info, info', format] ++ samples, 9 ∉ f)
    (h : ¬ infoRefused info) (h' : ¬ infoRefused info') :
    parseVcfRecord n prev (joinTab ([chrom, pos, id, ref, alt, qual, filter, info, format] ++ samples)) =
      parseVcfRecord n prev (joinTab ([chrom, pos, id, ref, alt, qual, filter, info', format] ++ samples)) := by
  -- the fields of either line are those of `hf` without one INFO column
  have s1 := splitBytes_joinTab ([chrom, pos, id, ref, alt, qual, filter, info, format] ++ samples) (List.cons_ne_nil _ _)
    (fun l hl => hf l (List.mem_of_mem_eraseIdx (i := 8) hl))
  have s2 := splitBytes_joinTab ([chrom, pos, id, ref, alt, qual, filter, info', format] ++ samples) (List.cons_ne_nil _ _)
    (fun l hl => hf l (List.mem_of_mem_eraseIdx (i := 7) hl))
  unfold infoRefused at h h'
  unfold parseVcfRecord
  rw [s1, s2]
  dsimp only [List.cons_append, List.nil_append]
  simp only [if_neg h, if_neg h']

end Sfs
