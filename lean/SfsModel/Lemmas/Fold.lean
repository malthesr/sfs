/-
Folding: a cell of `foldOpt` is its weight `cw` times the sum of its mirror pair (`foldCell_cw`), and the weights of a
pair add up to one (`cw_add`, `indexSum_rev`). So pair sums are kept (`fold_pair`): idempotence, polarity, and against a
mirror-symmetric weight (`sum_mul_of_pair_sums`) the mass and the fold invariance of the statistics.
-/
import SfsModel.Model.Spectrum
import SfsModel.Lemmas.SumBox
import Mathlib.Algebra.Field.Basic
namespace Sfs
open Finset

theorem indexSum_rev (s : List Nat) (i : Nat) (h : i < size s) :
    indexSumFromFlat s (size s - 1 - i) + indexSumFromFlat s i = s.sum - s.length := by
  rw [indexSumFromFlat_eq_sum s _ (by omega), indexSumFromFlat_eq_sum s _ h, unflat_rev s i h]
  exact sum_mirror s _ (unflat_inB s i h)

/-- One cell of `foldOpt`: the body of its `map` (Model/Spectrum.lean), kept in step with it; `foldOpt_eq : … := rfl` is
    the check. -/
def foldCellOpt {α} [Add α] [Mul α] [OfNat α 0] (half : α) (shape : List Nat) (x : List α) (i : Nat) :
    Option α :=
  match compare (indexSumFromFlat shape i) ((shape.sum - shape.length) / 2),
        ((shape.sum - shape.length) % 2 == 0) with
  | .lt, _ | .eq, false => some (x.getD i 0 + x.getD (size shape - 1 - i) 0)
  | .eq, true => some (half * x.getD i 0 + half * x.getD (size shape - 1 - i) 0)
  | .gt, _ => none

theorem foldOpt_eq {α} [Add α] [Mul α] [OfNat α 0] (half : α) (shape : List Nat) (x : List α) :
    foldOpt half shape x = (List.range (size shape)).map (foldCellOpt half shape x) := rfl

theorem foldSpectrum_eq {α} [Add α] [Mul α] [OfNat α 0] (half fill : α) (shape : List Nat) (x : List α) :
    foldSpectrum half fill shape x
      = (List.range (size shape)).map (fun i => (foldCellOpt half shape x i).getD fill) := by
  rw [foldSpectrum, foldOpt_eq, List.map_map]; rfl

theorem foldSpectrum_length {α} [Add α] [Mul α] [OfNat α 0] (half fill : α) (shape : List Nat)
    (x : List α) : (foldSpectrum half fill shape x).length = size shape := by
  rw [foldSpectrum_eq]; simp

theorem foldSpectrum_getElem? {α} [Add α] [Mul α] [OfNat α 0] (half fill : α) (shape : List Nat)
    (x : List α) (i : Nat) (h : i < size shape) :
    (foldSpectrum half fill shape x)[i]? = some ((foldCellOpt half shape x i).getD fill) := by
  rw [foldSpectrum_eq, List.getElem?_map, List.getElem?_range h]; rfl

theorem foldSpectrum_getD {α} [Add α] [Mul α] [OfNat α 0] (half fill : α) (shape : List Nat)
    (x : List α) (i : Nat) (h : i < size shape) :
    (foldSpectrum half fill shape x).getD i 0 = (foldCellOpt half shape x i).getD fill := by
  rw [List.getD_eq_getElem?_getD, foldSpectrum_getElem? half fill shape x i h]; rfl

/-- What comparing `c` with `T / 2` and testing the parity of `T` (the code) says about `2 * c` against `T`. -/
theorem two_mul_cmp (c T : Nat) :
    (c < T / 2 → 2 * c < T) ∧ (c = T / 2 → (T % 2 ≠ 0 → 2 * c < T) ∧ (T % 2 = 0 → 2 * c = T)) ∧
      (T / 2 < c → T < 2 * c) := by
  omega

theorem foldCell_if {α} [Field α] [CharZero α] (fill : α) (shape : List Nat) (x : List α) (i : Nat) :
    (foldCellOpt (1/2 : α) shape x i).getD fill
      = if 2 * indexSumFromFlat shape i < shape.sum - shape.length then
          x.getD i 0 + x.getD (size shape - 1 - i) 0
        else if 2 * indexSumFromFlat shape i = shape.sum - shape.length then
          (x.getD i 0 + x.getD (size shape - 1 - i) 0) / 2
        else fill := by
  unfold foldCellOpt
  generalize shape.sum - shape.length = T
  generalize indexSumFromFlat shape i = c
  obtain ⟨hlt, heq, hgt⟩ := two_mul_cmp c T
  split
  · next h => rw [if_pos (hlt (Nat.compare_eq_lt.mp h))]; rfl
  · next h hb => rw [if_pos ((heq (Nat.compare_eq_eq.mp h)).1 (beq_eq_false_iff_ne.mp hb))]; rfl
  · next h hb =>
    have := (heq (Nat.compare_eq_eq.mp h)).2 (beq_iff_eq.mp hb)
    rw [if_neg (Nat.not_lt_of_le (Nat.le_of_eq this.symm)), if_pos this, ← mul_add, one_div, inv_mul_eq_div]; rfl
  · next h =>
    have := hgt (Nat.compare_eq_gt.mp h)
    rw [if_neg (Nat.lt_asymm this), if_neg (Nat.ne_of_gt this)]; rfl

theorem foldSpectrum_congr {α} [Field α] [CharZero α] (fill : α) (shape : List Nat) (x y : List α)
    (h : ∀ i, i < size shape →
      x.getD i 0 + x.getD (size shape - 1 - i) 0 = y.getD i 0 + y.getD (size shape - 1 - i) 0) :
    foldSpectrum (1/2 : α) fill shape x = foldSpectrum (1/2 : α) fill shape y := by
  rw [foldSpectrum_eq, foldSpectrum_eq]
  exact List.map_congr_left fun i hi => by rw [foldCell_if, foldCell_if, h i (List.mem_range.mp hi)]

/-- The weight of a cell with index sum `count`: 1 below half the maximal total, 1/2 on it, 0 above. -/
def cw {α} [Field α] (total count : Nat) : α :=
  if 2 * count < total then 1 else if 2 * count = total then 1/2 else 0

theorem cw_add {α} [Field α] [CharZero α] (total a b : Nat) (h : a + b = total) :
    (cw total a : α) + cw total b = 1 := by
  -- the two counts lie on opposite sides of half the total, or both on it
  have : (2 * a < total ∧ total < 2 * b) ∨ (2 * a = total ∧ 2 * b = total) ∨ (total < 2 * a ∧ 2 * b < total) := by
    omega
  unfold cw
  rcases this with ⟨ha, hb⟩ | ⟨ha, hb⟩ | ⟨ha, hb⟩
  · rw [if_pos ha, if_neg (Nat.lt_asymm hb), if_neg (Nat.ne_of_gt hb), add_zero]
  · rw [if_neg (Nat.not_lt_of_le (Nat.le_of_eq ha.symm)), if_pos ha, if_neg (Nat.not_lt_of_le (Nat.le_of_eq hb.symm)),
      if_pos hb, ← add_div, one_add_one_eq_two, div_self (OfNat.ofNat_ne_zero 2)]
  · rw [if_neg (Nat.lt_asymm ha), if_neg (Nat.ne_of_gt ha), if_pos hb, zero_add]

theorem foldCell_cw {α} [Field α] [CharZero α] (shape : List Nat) (x : List α) (i : Nat) :
    (foldCellOpt (1/2 : α) shape x i).getD 0
      = cw (shape.sum - shape.length) (indexSumFromFlat shape i)
          * (x.getD i 0 + x.getD (size shape - 1 - i) 0) := by
  rw [foldCell_if, cw, ite_mul, ite_mul, one_mul, zero_mul, one_div, inv_mul_eq_div]

theorem fold_list_range_sum {α} [AddCommMonoid α] (f : Nat → α) (n : Nat) :
    ((List.range n).map f).sum = ∑ i ∈ Finset.range n, f i :=
  list_range_sum f n

theorem fold_pair {α} [Field α] [CharZero α] (shape : List Nat) (x : List α) (i : Nat) (hi : i < size shape) :
    (foldSpectrum (1/2 : α) 0 shape x).getD i 0 + (foldSpectrum (1/2 : α) 0 shape x).getD (size shape - 1 - i) 0
      = x.getD i 0 + x.getD (size shape - 1 - i) 0 := by
  rw [foldSpectrum_getD _ _ _ _ i hi, foldSpectrum_getD _ _ _ _ _ (by omega), foldCell_cw, foldCell_cw,
    Nat.sub_sub_self (Nat.le_sub_one_of_lt hi), add_comm (x.getD (size shape - 1 - i) 0), ← add_mul,
    add_comm, cw_add _ _ _ (indexSum_rev shape i hi), one_mul]

/-- A sum against a mirror-symmetric weight sees a vector only through the sums of its mirror pairs. -/
theorem sum_mul_of_pair_sums {α} [Field α] [CharZero α] (n : Nat) (x y W : Nat → α)
    (hW : ∀ i, i < n → W (n - 1 - i) = W i)
    (hp : ∀ i, i < n → y i + y (n - 1 - i) = x i + x (n - 1 - i)) :
    ∑ i ∈ range n, y i * W i = ∑ i ∈ range n, x i * W i := by
  -- by reflection of the sum, the pair sums against `W` add up to twice the sum
  have key : ∀ z : Nat → α, ∑ i ∈ range n, (z i + z (n - 1 - i)) * W i = 2 * ∑ i ∈ range n, z i * W i := by
    intro z
    have hrefl : ∑ i ∈ range n, z (n - 1 - i) * W i = ∑ i ∈ range n, z i * W i := by
      rw [← Finset.sum_range_reflect (fun i => z i * W i) n]
      exact Finset.sum_congr rfl fun i hi => by rw [hW i (mem_range.mp hi)]
    simp only [add_mul, Finset.sum_add_distrib, hrefl, two_mul]
  apply mul_left_cancel₀ (OfNat.ofNat_ne_zero (R := α) 2)
  rw [← key y, ← key x]
  exact Finset.sum_congr rfl fun i hi => by rw [hp i (mem_range.mp hi)]

theorem foldSpectrum_mass {α} [Field α] [CharZero α] (shape : List Nat) (x : List α)
    (hlen : x.length = size shape) :
    (foldSpectrum (1/2 : α) 0 shape x).sum = x.sum := by
  have h := sum_mul_of_pair_sums (size shape) _ _ (fun _ => (1 : α)) (fun _ _ => rfl) (fold_pair shape x)
  simp only [mul_one] at h
  rw [list_sum_eq_range, foldSpectrum_length, h, list_sum_eq_range x, hlen]

theorem foldSpectrum_idem {α} [Field α] [CharZero α] (shape : List Nat) (x : List α) :
    foldSpectrum (1/2 : α) 0 shape (foldSpectrum (1/2 : α) 0 shape x)
      = foldSpectrum (1/2 : α) 0 shape x :=
  foldSpectrum_congr 0 shape _ _ (fold_pair shape x)

theorem foldSpectrum_reverse {α} [Field α] [CharZero α] (fill : α) (shape : List Nat) (x : List α)
    (hlen : x.length = size shape) :
    foldSpectrum (1/2 : α) fill shape x.reverse = foldSpectrum (1/2 : α) fill shape x := by
  apply foldSpectrum_congr
  intro i hi
  rw [reverse_getD 0 x i (hlen ▸ hi), reverse_getD 0 x _ (by omega), hlen,
    Nat.sub_sub_self (Nat.le_sub_one_of_lt hi), add_comm]

end Sfs
