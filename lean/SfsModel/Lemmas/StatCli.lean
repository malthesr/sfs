/-
`statCli` (`sfs stat` after the spectrum was read): what a successful invocation consists of, column by column.
-/
import SfsModel.Model.Stat
import SfsModel.Lemmas.ListAux
namespace Sfs

section
variable {α : Type} [Add α] [Sub α] [Mul α] [Div α] [NatCast α] [OfNat α 0] [OfNat α 1]

/-- the value of a statistic, with a placeholder where the computation fails -/
def statValOf (a : Arr α) (k : StatKind) : StatVal α :=
  match statCalc k a with
  | .ok v => v
  | .error _ => .nan

theorem statCalc_eq_ok_statValOf (a : Arr α) (k : StatKind) (h : ∃ v, statCalc k a = .ok v) :
    statCalc k a = .ok (statValOf a k) := by
  obtain ⟨v, hv⟩ := h
  rw [statValOf, hv]

/-- Anatomy of a successful invocation: every statistic succeeded, the row is the list of their values zipped with as many
    precisions, the header is the one requested. -/
theorem statCli_done (kinds : List StatKind) (ps : List Nat) (header : Bool) (delim : Char) (a : Arr α)
    (hdr : Option String) (row : List (StatVal α × Nat)) (h : statCli kinds ps header delim a = .done hdr row) :
    ∃ ps' : List Nat, ps'.length = kinds.length ∧
      (∀ k ∈ kinds, ∃ v, statCalc k a = .ok v) ∧
      row = (kinds.map (statValOf a)).zip ps' ∧
      hdr = (if header then some (String.intercalate (String.singleton delim) (kinds.map StatKind.headerName))
        else none) := by
  unfold statCli at h
  simp only at h
  split at h
  · cases h -- usage: the precisions fit neither way
  · rename_i ps' hps
    split at h
    · cases h -- a statistic failed
    · rename_i vs hvs
      simp only [StatCliOut.done.injEq] at h
      have hok := mapM_except_ok_mem _ kinds vs hvs
      have hmap : vs = kinds.map (statValOf a) := by
        rw [mapM_except_map _ (statValOf a) kinds (fun k hk => statCalc_eq_ok_statValOf a k (hok k hk))] at hvs
        exact (Except.ok.inj hvs).symm
      refine ⟨ps', ?_, hok, ?_, ?_⟩
      · split at hps
        · -- one precision for all
          simp only [Option.some.injEq] at hps; simp [← hps]
        · split at hps
          · -- one precision each
            simp only [Option.some.injEq] at hps; rw [← hps]; assumption
          · cases hps
      · rw [← h.2, hmap]
      · exact h.1.symm

/-- with a single common precision and no header, a successful invocation is determined by the values -/
theorem statCli_single (kinds : List StatKind) (p : Nat) (delim : Char) (a : Arr α)
    (h : ∀ k ∈ kinds, ∃ v, statCalc k a = .ok v) :
    statCli kinds [p] false delim a = .done none (kinds.map (fun k => (statValOf a k, p))) := by
  have hvs := mapM_except_map (fun k => statCalc k a) (statValOf a) kinds (fun k hk => statCalc_eq_ok_statValOf a k (h k hk))
  unfold statCli
  simp only [hvs, List.zip_map', Bool.false_eq_true, if_false]

theorem statCli_done_col (kinds : List StatKind) (ps : List Nat) (header : Bool) (delim : Char) (a : Arr α)
    (hdr : Option String) (row : List (StatVal α × Nat)) (h : statCli kinds ps header delim a = .done hdr row)
    (i : Nat) (hi : i < kinds.length) :
    statCalc kinds[i] a = .ok (statValOf a kinds[i]) ∧ (row[i]?).map (·.1) = some (statValOf a kinds[i]) := by
  obtain ⟨ps', hlen, hok, hrow, _⟩ := statCli_done kinds ps header delim a hdr row h
  refine ⟨statCalc_eq_ok_statValOf a _ (hok kinds[i] (List.getElem_mem hi)), ?_⟩
  -- the first components of the zipped row are the values
  rw [← List.getElem?_map, hrow, List.map_fst_zip (Nat.le_of_eq ((List.length_map _).trans hlen.symm)), List.getElem?_map, List.getElem?_eq_getElem hi]
  rfl

end

end Sfs
