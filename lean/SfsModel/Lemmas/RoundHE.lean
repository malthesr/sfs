/-
Rounding `n / d` to the nearest integer, ties to even: the rounding of `{:.p}`, of the decimal → binary64 conversion and
of `shiftRoundEven`, characterised once in `ℚ` up to ties (which way a tie goes is never needed).
-/
import SfsModel.Model.XR
import Mathlib.Algebra.Order.Field.Basic
import Mathlib.Tactic.Ring
import Mathlib.Tactic.Linarith
namespace Sfs

theorem absRat_eq_abs (x : Rat) : absRat x = |x| := by
  unfold absRat
  split
  · rw [abs_of_neg ‹_›]
  · rw [abs_of_nonneg (not_lt.1 ‹_›)]

/-- `n / d` rounded to the nearest integer, ties to even. -/
def roundHE (n d : Nat) : Nat :=
  if 2 * (n % d) > d then n / d + 1 else if 2 * (n % d) < d then n / d
  else (if n / d % 2 = 1 then n / d + 1 else n / d)

/-- down only if the remainder is at most half, up only if it is at least half. -/
theorem roundHE_cases (n d : Nat) :
    roundHE n d = n / d ∧ 2 * (n % d) ≤ d ∨ roundHE n d = n / d + 1 ∧ d ≤ 2 * (n % d) := by
  unfold roundHE
  split
  · exact .inr ⟨rfl, by omega⟩
  · split
    · exact .inl ⟨rfl, by omega⟩
    · split
      · exact .inr ⟨rfl, by omega⟩
      · exact .inl ⟨rfl, by omega⟩

theorem roundHE_bounds (n d : Nat) (hd : 0 < d) :
    2 * (roundHE n d * d) ≤ 2 * n + d ∧ 2 * n ≤ 2 * (roundHE n d * d) + d := by
  have h1 : d * (n / d) + n % d = n := Nat.div_add_mod n d
  have h2 : n % d < d := Nat.mod_lt _ hd
  rcases roundHE_cases n d with ⟨hr, h⟩ | ⟨hr, h⟩
  · rw [hr, Nat.mul_comm (n / d) d]; omega
  · rw [hr, Nat.add_mul, Nat.one_mul, Nat.mul_comm (n / d) d]; omega

/-- `roundHE n d` is an integer nearest to the rational `x = n / d` … -/
theorem roundHE_near {n d : Nat} {x : Rat} (hd : 0 < d) (hx : (n : Rat) / (d : Rat) = x) :
    |(roundHE n d : Rat) - x| ≤ 1 / 2 := by
  obtain ⟨b1, b2⟩ := roundHE_bounds n d hd
  have hd' : (0 : Rat) < (d : Rat) := by exact_mod_cast hd
  have b1' : (2 * ((roundHE n d : Rat) * d) : Rat) ≤ 2 * n + d := by exact_mod_cast b1
  have b2' : (2 * (n : Rat) : Rat) ≤ 2 * ((roundHE n d : Rat) * d) + d := by exact_mod_cast b2
  -- times `d`, `r - n / d` is `r·d - n`: the lower half is `b2`, the upper half `b1`
  have key : ((roundHE n d : Rat) - (n : Rat) / d) * d = roundHE n d * d - n := by
    rw [sub_mul, div_mul_cancel₀ _ hd'.ne']
  rw [← hx, abs_le]
  constructor
  · refine le_of_mul_le_mul_right ?_ hd'
    rw [key]; linarith only [b2']
  · refine le_of_mul_le_mul_right ?_ hd'
    rw [key]; linarith only [b1']

/-- … and any integer strictly within one half of `x` is it. -/
theorem roundHE_of_near {n d : Nat} {x : Rat} (hd : 0 < d) (hx : (n : Rat) / (d : Rat) = x) (k : Nat)
    (h : |(k : Rat) - x| < 1 / 2) : roundHE n d = k := by
  have h1 := roundHE_near hd hx
  have h2 : |((roundHE n d : Int) : Rat) - ((k : Int) : Rat)| < 1 := by
    calc _ ≤ |(roundHE n d : Rat) - x| + |x - k| := abs_sub_le _ _ _
      _ < 1 := by rw [abs_sub_comm x]; linarith only [h1, h]
  rw [← Int.cast_sub, ← Int.cast_abs] at h2
  have h4 := Int.abs_lt_one_iff.1 (show |(roundHE n d : Int) - (k : Int)| < 1 by exact_mod_cast h2)
  omega

theorem roundHE_natCast {n d : Nat} (hd : 0 < d) (k : Nat) (hx : (n : Rat) / (d : Rat) = (k : Rat)) :
    roundHE n d = k :=
  roundHE_of_near hd hx k (by rw [sub_self, abs_zero]; norm_num)

theorem le_roundHE {n d : Nat} {x : Rat} (hd : 0 < d) (hx : (n : Rat) / (d : Rat) = x) (k : Nat)
    (h : (k : Rat) ≤ x) : k ≤ roundHE n d := by
  have h1 := (abs_le.1 (roundHE_near hd hx)).1
  have h2 : (k : Rat) < ((roundHE n d + 1 : Nat) : Rat) := by rw [Nat.cast_succ]; linarith only [h1, h]
  exact Nat.lt_succ_iff.1 (Nat.cast_lt.1 h2)

theorem roundHE_le {n d : Nat} {x : Rat} (hd : 0 < d) (hx : (n : Rat) / (d : Rat) = x) (k : Nat)
    (h : x ≤ (k : Rat)) : roundHE n d ≤ k := by
  have h1 := (abs_le.1 (roundHE_near hd hx)).2
  have h2 : (roundHE n d : Rat) < ((k + 1 : Nat) : Rat) := by rw [Nat.cast_succ]; linarith only [h1, h]
  exact Nat.lt_succ_iff.1 (Nat.cast_lt.1 h2)

theorem roundHE_between (n d K L : Nat) (hd : 0 < d) (h1 : K * d ≤ n) (h2 : n ≤ L * d) :
    K ≤ roundHE n d ∧ roundHE n d ≤ L := by
  have hd' : (0 : Rat) < (d : Rat) := by exact_mod_cast hd
  constructor
  · exact le_roundHE hd rfl K ((le_div_iff₀ hd').2 (by exact_mod_cast h1))
  · exact roundHE_le hd rfl L ((div_le_iff₀ hd').2 (by exact_mod_cast h2))

/-- the fraction both `fmtRatFixed` (`T = 10^p`) and `f64BitsOfRatNonneg` (`T = 1`) start from. -/
theorem natAbs_mul_div_den (q : Rat) (hq : 0 ≤ q) (T : Nat) :
    ((q.num.natAbs * T : Nat) : Rat) / (q.den : Rat) = q * (T : Rat) := by
  have h1 : ((q.num.natAbs : Int) : Rat) = (q.num : Rat) := by rw [Int.natAbs_of_nonneg (Rat.num_nonneg.2 hq)]
  rw [Nat.cast_mul, ← Int.cast_natCast, h1, mul_div_right_comm, Rat.num_div_den]

theorem num_div_den_nonneg (q : Rat) (hq : 0 ≤ q) : ((q.num.natAbs : Nat) : Rat) / (q.den : Rat) = q := by
  have := natAbs_mul_div_den q hq 1; rwa [Nat.mul_one, Nat.cast_one, mul_one] at this

/-- a decimal `M / T` prints as `M`. -/
theorem roundHE_num_mul_den (t : Rat) (M T : Nat) (hT : 0 < T) (ht : t = (M : Rat) / (T : Rat)) :
    roundHE (t.num.natAbs * T) t.den = M := by
  have hT' : ((T : Rat)) ≠ 0 := by exact_mod_cast hT.ne'
  have h0 : 0 ≤ t := by rw [ht]; exact div_nonneg (Nat.cast_nonneg _) (Nat.cast_nonneg _)
  exact roundHE_natCast t.den_pos M ((natAbs_mul_div_den t h0 T).trans (by rw [ht, div_mul_cancel₀ _ hT']))

/-- at precision 0 a count is its own scaled integer. -/
theorem roundHE_natCast_prec0 (n : Nat) : roundHE ((absRat (n : Rat)).num.natAbs * 10 ^ 0) (absRat (n : Rat)).den = n := by
  rw [absRat_eq_abs, Nat.abs_cast]
  exact roundHE_num_mul_den (n : Rat) n (10 ^ 0) (by decide) (by rw [Nat.pow_zero, Nat.cast_one, div_one])

end Sfs
