/-
Shared by the VCF and BCF round trips: the text written by `headerText` is a list of `\n`-terminated lines that parse back to
the sample names, the contig dictionary (no gaps: the encoder writes no `IDX`) and the string dictionary [PASS, GT].
-/
import SfsModel.Lemmas.VcfText
namespace Sfs

/-! Each literal of `headerText` is related to a list once, by `strBytes_ofList`; everything below is about the lists. -/

def fileformatLine : List Nat := ['#', '#', 'f', 'i', 'l', 'e', 'f', 'o', 'r', 'm', 'a', 't', '=', 'V', 'C', 'F', 'v', '4',
  '.', '3'].map Char.toNat

def contigPrefix : List Nat := ['#', '#', 'c', 'o', 'n', 't', 'i', 'g', '=', '<', 'I', 'D', '='].map Char.toNat

def formatLine : List Nat := ['#', '#', 'F', 'O', 'R', 'M', 'A', 'T', '=', '<', 'I', 'D', '=', 'G', 'T', ',', 'N', 'u', 'm',
  'b', 'e', 'r', '=', '1', ',', 'T', 'y', 'p', 'e', '=', 'S', 't', 'r', 'i', 'n', 'g', ',', 'D', 'e', 's', 'c', 'r', 'i',
  'p', 't', 'i', 'o', 'n', '=', '"', 'G', 'e', 'n', 'o', 't', 'y', 'p', 'e', '"', '>'].map Char.toNat

theorem fileformatLine_eq : strBytes "##fileformat=VCFv4.3\n" = fileformatLine ++ [10] :=
  (strBytes_ofList _).trans rfl

theorem contigPrefix_eq : strBytes "##contig=<ID=" = contigPrefix := strBytes_ofList _

theorem contigSuffix_eq : strBytes ">\n" = [62, 10] := strBytes_ofList ['>', '\n']

theorem formatLine_eq :
    strBytes "##FORMAT=<ID=GT,Number=1,Type=String,Description=\"Genotype\">\n" = formatLine ++ [10] :=
  (strBytes_ofList _).trans rfl

def chromLinePrefixBytes : List Nat := ['#', 'C', 'H', 'R', 'O', 'M', '\t', 'P', 'O', 'S', '\t', 'I', 'D', '\t', 'R', 'E', 'F', '\t', 'A',
  'L', 'T', '\t', 'Q', 'U', 'A', 'L', '\t', 'F', 'I', 'L', 'T', 'E', 'R', '\t', 'I', 'N', 'F', 'O', '\t', 'F', 'O', 'R', 'M',
  'A', 'T', '\t'].map Char.toNat

theorem chromLinePrefix_eq : chromLinePrefix = chromLinePrefixBytes := strBytes_ofList _

theorem fixedPieces_bytes :
    ∀ l ∈ [fileformatLine, contigPrefix, formatLine, chromLinePrefixBytes], ∀ b ∈ l, b ≠ 10 ∧ b ≠ 13 := by
  decide +kernel

theorem strBytes_hashes : strBytes "##" = [35, 35] := strBytes_ofList ['#', '#']

theorem strBytes_idxTag : strBytes "IDX=" = [73, 68, 88, 61] := strBytes_ofList ['I', 'D', 'X', '=']

def contigLine (c : String) : List Nat := contigPrefix ++ strBytes c ++ [62]

def chromLine (cols : List String) : List Nat := chromLinePrefix ++ joinTab (cols.map strBytes)

def headerLines (cols contigs : List String) : List (List Nat) :=
  fileformatLine :: (contigs.map contigLine ++ [formatLine, chromLine cols])

theorem headerText_eq_lines (cols contigs : List String) :
    headerText cols contigs = (headerLines cols contigs).flatMap (· ++ [10]) := by
  -- for arbitrary pieces: checking the proof `simp` finds for the closed lists, the kernel unfolds them down to their literals
  have key (a b c d e : List Nat) (f : String → List Nat) :
      a ++ [10] ++ contigs.flatMap (fun x => b ++ f x ++ [62, 10]) ++ (c ++ [10]) ++ d ++ e ++ [10] =
        (a :: (contigs.map (fun x => b ++ f x ++ [62]) ++ [c, d ++ e])).flatMap (· ++ [10]) := by
    simp only [List.flatMap_cons, List.flatMap_append, List.flatMap_map, List.flatMap_nil, List.append_assoc,
      List.cons_append, List.nil_append, List.append_nil]
  rw [headerText, fileformatLine_eq, contigPrefix_eq, contigSuffix_eq, formatLine_eq]
  exact key _ _ _ _ _ _

theorem lineIdx_of_no_comma (l : List Nat) (h : 44 ∉ l) : lineIdx l = none := by
  have e : strBytes ",IDX=" = [44, 73, 68, 88, 61] := strBytes_ofList [',', 'I', 'D', 'X', '=']
  unfold lineIdx splitIdx
  simp only [e]
  split
  · split
    · rename_i hc
      simp only [Bool.and_eq_true] at hc
      have hm := (List.isPrefixOf_iff_prefix.1 hc.2).subset (List.mem_reverse.2 (List.mem_cons_self (a := 44)))
      exact absurd (List.dropLast_subset _ (List.mem_of_mem_take (List.mem_reverse.1 hm))) h
    · rfl
  · rfl

theorem metaId_prefix (kind : String) :
    strBytes ("##" ++ kind ++ "=<ID=") = [35, 35] ++ strBytes kind ++ [61, 60, 73, 68, 61] := by
  rw [strBytes_append, strBytes_append, strBytes_hashes, strBytes_ofList ['=', '<', 'I', 'D', '=']]
  rfl

/-- One step of the header loop on a `##` line without `IDX`: it dispatches on `metaId`. -/
theorem go_meta (l : List Nat) (h1 : [35, 35].isPrefixOf l = true) (h2 : hasInfix [73, 68, 88, 61] l = false)
    (h3 : lineIdx l = none) (fuel : Nat) (ls : List (List Nat)) (contigs strings : List (Option String)) :
    parseVcfHeaderLines.go (fuel + 1) (l :: ls) contigs strings =
      match metaId "contig" l with
      | some id => (asciiString id).bind fun s =>
          (dictInsert contigs s none).bind fun c' => parseVcfHeaderLines.go fuel ls c' strings
      | none =>
        match (metaId "FILTER" l).orElse (fun _ => (metaId "INFO" l).orElse (fun _ => metaId "FORMAT" l)) with
        | some id =>
          if !metaLineOk l then none else (asciiString id).bind fun s =>
            (dictInsert strings s none).bind fun s' => parseVcfHeaderLines.go fuel ls contigs s'
        | none => if otherMetaOk l then parseVcfHeaderLines.go fuel ls contigs strings else none := by
  rw [parseVcfHeaderLines.go.eq_3]
  simp only [strBytes_hashes, strBytes_idxTag, h1, h3, Option.isSome_none, Option.isNone_none, Bool.false_eq_true, if_false,
    h2, if_true, Bool.true_and]
  rfl  -- prints as `A = A`: the `match` of the statement is an auxiliary of its own, not the model's

theorem go_contigLine (c : String) (hc : WfContig c) (fuel : Nat) (ls : List (List Nat)) (acc strings : List (Option String))
    (hnew : some c ∉ acc) :
    parseVcfHeaderLines.go (fuel + 1) (contigLine c :: ls) acc strings =
      parseVcfHeaderLines.go fuel ls (acc ++ [some c]) strings := by
  -- behind the prefix: no `=`, no `,`
  have hno : ∀ b ∈ strBytes c ++ [62], b ≠ 61 ∧ b ≠ 44 := by
    intro b hb
    rcases List.mem_append.1 hb with hb | hb
    · have := wfContig_bytes hc hb; omega
    · simp at hb; omega
  have hhash : [35, 35].isPrefixOf (contigLine c) = true := by rw [contigLine, List.append_assoc]; rfl
  have hnoTag : hasInfix [73, 68, 88, 61] (contigLine c) = false := by
    -- along the prefix by evaluation (it holds `=` twice); behind it there is no `=`
    have ht := hasInfix_false_of_not_mem [73, 68, 88, 61] _ 61 (by simp) (fun hm => (hno 61 hm).1 rfl)
    simp [contigLine, contigPrefix, hasInfix, ht, List.isPrefixOf_cons_cons]
  have hnoIdx : lineIdx (contigLine c) = none := by
    apply lineIdx_of_no_comma
    rw [contigLine, List.append_assoc]
    intro hm
    rcases List.mem_append.1 hm with hm | hm
    · revert hm; decide
    · exact (hno 44 hm).2 rfl
  have hid : metaId "contig" (contigLine c) = some (strBytes c) := by
    -- `metaId` tests its prefix (`e`), drops it (`List.drop_left`: as the left part of an append) and takes up to `,` or `>`
    have e : strBytes ("##" ++ "contig" ++ "=<ID=") = contigPrefix := by rw [metaId_prefix, strBytes_ofList]; rfl
    rw [metaId, e, contigLine, List.append_assoc, if_pos (by simp), List.drop_left,
      List.takeWhile_append_of_pos (fun b hb => by have := wfContig_bytes hc hb; simp; omega)]
    simp
  rw [go_meta _ hhash hnoTag hnoIdx, hid]
  -- the id is ASCII, and new to the dictionary: appended
  simp [wfContig_ascii hc, dictInsert, hnew]

theorem go_contigLines (cs : List String) (hcs : ∀ c ∈ cs, WfContig c) (hnd : cs.Nodup) (f : Nat) (tail : List (List Nat))
    (acc strings : List (Option String)) (hacc : ∀ c ∈ cs, some c ∉ acc) :
    parseVcfHeaderLines.go (cs.length + f) (cs.map contigLine ++ tail) acc strings =
      parseVcfHeaderLines.go f tail (acc ++ cs.map some) strings := by
  induction cs generalizing acc with
  | nil => simp
  | cons c cs ih =>
    have e : (c :: cs).length + f = (cs.length + f) + 1 := by simp; omega
    have hnd' := List.nodup_cons.1 hnd
    rw [e, List.map_cons, List.cons_append, go_contigLine c (hcs c (by simp)) _ _ _ _ (hacc c (by simp)),
      ih (fun c' hc' => hcs c' (by simp [hc'])) hnd'.2]
    · simp
    · intro c' hc' hm
      rcases List.mem_append.1 hm with hm | hm
      · exact hacc c' (by simp [hc']) hm
      · simp only [List.mem_singleton, Option.some.injEq] at hm
        exact hnd'.1 (hm ▸ hc')

/-- The model's tests on the FORMAT line, evaluated (its literals turned into lists first): a finite fact about one fixed
    line. -/
theorem formatLine_tests : [35, 35].isPrefixOf formatLine = true ∧ hasInfix [73, 68, 88, 61] formatLine = false ∧
    metaId "contig" formatLine = none ∧ metaId "FILTER" formatLine = none ∧ metaId "INFO" formatLine = none ∧
    metaId "FORMAT" formatLine = some [71, 84] ∧ asciiString [71, 84] = some "GT" ∧ lineIdx formatLine = none ∧
    dictInsert [some "PASS"] "GT" none = some [some "PASS", some "GT"] := by
  unfold metaId
  simp only [metaId_prefix]
  repeat rw [strBytes_ofList]
  decide +kernel

/-- `metaLineOk` searches the line for its own literals, which would be decoded again at every position: they are turned
    into lists first. -/
theorem formatLine_ok : metaLineOk formatLine = true := by
  unfold metaLineOk splitIdx
  repeat rw [strBytes_ofList]
  decide +kernel

theorem go_formatLine (fuel : Nat) (ls : List (List Nat)) (contigs : List (Option String)) :
    parseVcfHeaderLines.go (fuel + 1) (formatLine :: ls) contigs [some "PASS"] =
      parseVcfHeaderLines.go fuel ls contigs [some "PASS", some "GT"] := by
  obtain ⟨h1, h2, h3, h4, h5, h6, h7, h9, h10⟩ := formatLine_tests
  rw [go_meta _ h1 h2 h9, h3, h4, h5, h6]
  simp [formatLine_ok, h7, h10]

theorem go_chromLine (cols : List String) (hc : cols ≠ []) (hcw : ∀ c ∈ cols, WfName c) (hnd : cols.Nodup) (fuel : Nat)
    (ls : List (List Nat)) (contigs strings : List (Option String)) :
    parseVcfHeaderLines.go (fuel + 1) (chromLine cols :: ls) contigs strings =
      some (⟨cols, contigs, strings⟩, ls) := by
  -- the `#CHROM` branch of `go`: not `##` (`h1`), the prefix (`h2`, `h3`), names split at TAB (`h4`), ASCII (`h5`), none
  -- empty (`h6`); distinct is `hnd`
  have h1 : (strBytes "##").isPrefixOf (chromLine cols) = false := by
    rw [strBytes_hashes, chromLine, chromLinePrefix_eq]
    rfl
  have h2 : chromLinePrefix.isPrefixOf (chromLine cols) = true := by
    simp [chromLine]
  have h3 : (chromLine cols).drop chromLinePrefix.length = joinTab (cols.map strBytes) := by
    simp [chromLine]
  have h4 : splitBytes 9 (joinTab (cols.map strBytes)) = cols.map strBytes := by
    apply splitBytes_joinTab _ (by simpa using hc)
    intro l hl
    obtain ⟨c, hc', rfl⟩ := List.mem_map.1 hl
    intro h9
    exact (wfName_bytes (hcw c hc') h9).1 rfl
  have h5 : (cols.map strBytes).mapM asciiString = some cols := by
    simpa using mapM_map_some strBytes asciiString id cols (fun c hc' => wfName_ascii (hcw c hc'))
  have h6 : (cols.any fun x => x == "") = false := by
    simp only [List.any_eq_false, beq_iff_eq]
    intro c hc' e
    exact (hcw c hc').1 e
  rw [parseVcfHeaderLines.go.eq_3]
  simp only [h1, h2, h3, h4, h5, h6]
  simp [hnd]

theorem parseVcfHeaderLines_headerLines (cols contigs : List String) (hc : cols ≠ []) (hcw : ∀ c ∈ cols, WfName c)
    (hnd : cols.Nodup) (hg : ∀ c ∈ contigs, WfContig c) (hgn : contigs.Nodup) (rest : List (List Nat)) :
    parseVcfHeaderLines (headerLines cols contigs ++ rest) =
      some (⟨cols, contigs.map some, [some "PASS", some "GT"]⟩, rest) := by
  have e0 : strBytes "##fileformat=VCFv4." = fileformatLine.take 19 := (strBytes_ofList _).trans rfl
  have hl : (contigs.map contigLine ++ formatLine :: chromLine cols :: rest).length + 1 =
      contigs.length + (rest.length + 1 + 1 + 1) := by
    simp; omega
  unfold parseVcfHeaderLines headerLines
  simp only [List.cons_append, e0, List.append_assoc, List.nil_append]
  rw [if_neg (by decide), hl, go_contigLines contigs hg hgn _ _ _ _ (by simp), go_formatLine,
    go_chromLine cols hc hcw hnd]
  rfl

theorem headerLines_bytes (cols contigs : List String) (hcw : ∀ c ∈ cols, WfName c)
    (hg : ∀ c ∈ contigs, WfContig c) : ∀ l ∈ headerLines cols contigs, ∀ b ∈ l, b ≠ 10 ∧ b ≠ 13 := by
  intro l hl
  simp only [headerLines, List.mem_cons, List.mem_append, List.mem_map, List.not_mem_nil, or_false] at hl
  -- `rw`, not an `rfl` pattern: substituting one of the closed lists for `l` is slow
  rcases hl with h | ⟨c, hc, h⟩ | h | h
  · rw [h]; exact fixedPieces_bytes _ List.mem_cons_self  -- ##fileformat
  · intro b hb  -- a contig line: prefix, name, `>`
    simp only [← h, contigLine, List.mem_append, List.mem_singleton] at hb
    rcases hb with (hb | hb) | hb
    · exact fixedPieces_bytes _ (.tail _ List.mem_cons_self) b hb
    · have := wfContig_bytes (hg c hc) hb; omega
    · omega
  · rw [h]; exact fixedPieces_bytes _ (.tail _ (.tail _ List.mem_cons_self))  -- ##FORMAT
  · intro b hb  -- #CHROM: prefix, then TAB or a name byte
    simp only [h, chromLine, chromLinePrefix_eq, List.mem_append] at hb
    rcases hb with hb | hb
    · exact fixedPieces_bytes _ (.tail _ (.tail _ (.tail _ List.mem_cons_self))) b hb
    · rcases mem_joinTab hb with rfl | ⟨l, hl, hbl⟩
      · omega
      · obtain ⟨c, hc, rfl⟩ := List.mem_map.1 hl
        exact (wfName_bytes (hcw c hc) hbl).2

theorem splitLines_headerText (cols contigs : List String) (hcw : ∀ c ∈ cols, WfName c)
    (hg : ∀ c ∈ contigs, WfContig c) : splitLines (headerText cols contigs) = headerLines cols contigs := by
  rw [headerText_eq_lines]
  exact splitLines_lines _ (fun l hl h => (headerLines_bytes cols contigs hcw hg l hl 10 h).1 rfl)

end Sfs
