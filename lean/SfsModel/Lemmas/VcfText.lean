/-
Text utilities of the VCF / BCF codecs: the model's splitters through core's `splitOn`, strings and the well-formedness
predicates of `Spec/Container.lean` as facts about bytes.
-/
import SfsModel.Spec.Container
import SfsModel.Lemmas.Bytes
namespace Sfs

theorem splitBytes_eq (c : Nat) (s : List Nat) : splitBytes c s = s.splitOn c :=
  eq_splitOnP (· == c) (splitBytes c) rfl (fun x xs cur rest h => by simp [splitBytes, h]) s

theorem splitBytes_ne_nil (c : Nat) (l : List Nat) : splitBytes c l ≠ [] :=
  splitBytes_eq c l ▸ List.splitOn_ne_nil c l

theorem splitBytes_single (c : Nat) (x : List Nat) (h : c ∉ x) : splitBytes c x = [x] :=
  splitBytes_eq c x ▸ List.splitOn_eq_singleton h

theorem splitBytes_append_sep (c : Nat) (x rest : List Nat) (h : c ∉ x) :
    splitBytes c (x ++ c :: rest) = x :: splitBytes c rest := by
  rw [splitBytes_eq, splitBytes_eq, List.splitOn_append_cons_self_of_not_mem h]

theorem splitBytes_head (c : Nat) (l : List Nat) : (splitBytes c l)[0]? = some (l.takeWhile (· ≠ c)) := by
  rw [splitBytes_eq]
  induction l with
  | nil => rfl
  | cons x xs ih =>
    rw [List.splitOn_cons_eq_if_modifyHead]
    by_cases hx : x = c
    · simp [hx]
    · cases h : xs.splitOn c with
      | nil => exact absurd h (List.splitOn_ne_nil c xs)
      | cons a t =>
        rw [h] at ih
        simpa [hx] using ih

theorem joinTab_eq_intercalate : ∀ ls : List (List Nat), joinTab ls = [9].intercalate ls
  | [] => rfl
  | [x] => List.intercalate_singleton.symm
  | x :: y :: ys => by
    rw [List.intercalate_cons_cons, ← joinTab_eq_intercalate (y :: ys), List.append_assoc]
    rfl

theorem splitBytes_joinTab (ls : List (List Nat)) (hne : ls ≠ []) (h : ∀ l ∈ ls, 9 ∉ l) :
    splitBytes 9 (joinTab ls) = ls := by
  rw [splitBytes_eq, joinTab_eq_intercalate, List.splitOn_intercalate 9 h hne]

theorem joinTab_cons (x : List Nat) (xs : List (List Nat)) : joinTab (x :: xs) = x ++ xs.flatMap (9 :: ·) := by
  induction xs generalizing x with
  | nil => simp [joinTab]
  | cons y ys ih => show x ++ 9 :: joinTab (y :: ys) = _; rw [ih]; rfl

theorem mem_joinTab {ls : List (List Nat)} {b : Nat} (h : b ∈ joinTab ls) : b = 9 ∨ ∃ l ∈ ls, b ∈ l := by
  cases ls with
  | nil => simp [joinTab] at h
  | cons x xs =>
    rw [joinTab_cons] at h
    simp only [List.mem_append, List.mem_flatMap, List.mem_cons] at h
    rcases h with h | ⟨y, hy, h | h⟩
    · exact .inr ⟨x, by simp, h⟩
    · exact .inl h
    · exact .inr ⟨y, by simp [hy], h⟩

theorem splitLines_lines (ls : List (List Nat)) (h : ∀ l ∈ ls, 10 ∉ l) : splitLines (ls.flatMap (· ++ [10])) = ls := by
  have e : ls.flatMap (· ++ [10]) = [10].intercalate (ls ++ [[]]) := by
    rw [intercalate_snoc, List.append_nil, List.flatMap_def]
  have h' : ∀ l ∈ ls ++ [[]], 10 ∉ l := by
    intro l hl
    rcases List.mem_append.1 hl with hl | hl
    · exact h l hl
    · simp at hl; simp [hl]
  rw [splitLines, splitBytes_eq, e, List.splitOn_intercalate 10 h' (by simp)]
  simp

theorem strBytes_append (a b : String) : strBytes (a ++ b) = strBytes a ++ strBytes b := by
  simp [strBytes]

theorem mem_strBytes {s : String} {b : Nat} : b ∈ strBytes s ↔ ∃ c ∈ s.toList, c.toNat = b := by
  simp [strBytes]

theorem strBytes_eq_asciiBytes (s : String) : strBytes s = asciiBytes s.toList := rfl

theorem asciiString_eq (l : List Nat) :
    asciiString l = if allAscii l then some (String.ofList (bytesToChars l)) else none := rfl

theorem asciiString_strBytes (s : String) (h : ∀ c ∈ s.toList, c.toNat < 128) : asciiString (strBytes s) = some s := by
  rw [asciiString_eq, strBytes_eq_asciiBytes, allAscii_asciiBytes _ h, bytesToChars_asciiBytes, String.ofList_toList]
  rfl

theorem strBytes_ne_nil {s : String} (h : s ≠ "") : strBytes s ≠ [] := by
  intro e
  apply h
  have : s.toList = [] := by simpa [strBytes] using e
  rw [← String.ofList_toList (s := s), this]

theorem contigChar_range {c : Char} (h : c.isAlphanum = true ∨ c = '_' ∨ c = '.') :
    (48 ≤ c.toNat ∧ c.toNat ≤ 57) ∨ (65 ≤ c.toNat ∧ c.toNat ≤ 90) ∨ (97 ≤ c.toNat ∧ c.toNat ≤ 122) ∨
      c.toNat = 95 ∨ c.toNat = 46 := by
  rcases h with h | rfl | rfl
  · simp only [Char.isAlphanum, Char.isAlpha, Char.isUpper, Char.isLower, Char.isDigit, Bool.or_eq_true,
      Bool.and_eq_true, decide_eq_true_eq, ge_iff_le, UInt32.le_iff_toNat_le] at h
    rcases h with (h | h) | h
    · exact .inr (.inl h)
    · exact .inr (.inr (.inl h))
    · exact .inl h
  · decide
  · decide

theorem wfContig_bytes {s : String} (h : WfContig s) {b : Nat} (hb : b ∈ strBytes s) :
    (48 ≤ b ∧ b ≤ 57) ∨ (65 ≤ b ∧ b ≤ 90) ∨ (97 ≤ b ∧ b ≤ 122) ∨ b = 95 ∨ b = 46 := by
  obtain ⟨c, hc, rfl⟩ := mem_strBytes.1 hb
  exact contigChar_range (h.2 c hc)

theorem wfContig_ascii {s : String} (h : WfContig s) : asciiString (strBytes s) = some s := by
  apply asciiString_strBytes
  intro c hc
  have := contigChar_range (h.2 c hc)
  omega

theorem wfName_ascii {s : String} (h : WfName s) : asciiString (strBytes s) = some s :=
  asciiString_strBytes s (fun c hc => (h.2 c hc).1)

theorem wfName_bytes {s : String} (h : WfName s) {b : Nat} (hb : b ∈ strBytes s) : b ≠ 9 ∧ b ≠ 10 ∧ b ≠ 13 := by
  obtain ⟨c, hc, rfl⟩ := mem_strBytes.1 hb
  obtain ⟨_, h1, h2, h3⟩ := h.2 c hc
  exact ⟨fun e => h1 (Char.toNat_inj.1 e), fun e => h2 (Char.toNat_inj.1 e), fun e => h3 (Char.toNat_inj.1 e)⟩

theorem hasInfix_false_of_not_mem (p l : List Nat) (x : Nat) (hx : x ∈ p) (hl : x ∉ l) : hasInfix p l = false := by
  induction l with
  | nil =>
    cases p with
    | nil => simp at hx
    | cons a p => rfl
  | cons a l ih =>
    unfold hasInfix
    rw [ih (fun h => hl (by simp [h])), Bool.or_false]
    cases hp : p.isPrefixOf (a :: l) with
    | false => rfl
    | true => exact absurd ((List.isPrefixOf_iff_prefix.1 hp).subset hx) hl

/-- The unifier reads a string literal as `String.ofList` of its characters, so rewriting with this decodes nothing, whereas
    evaluating `String.toList` of a literal decodes UTF-8, in the elaborator and again in the kernel, and is slow. -/
theorem strBytes_ofList (cs : List Char) : strBytes (String.ofList cs) = cs.map Char.toNat := by
  rw [strBytes, String.toList_ofList]

end Sfs
