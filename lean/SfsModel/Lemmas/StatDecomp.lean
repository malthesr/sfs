/-
The f2 decompositions of f3 and f4 (C14): `freqSum` of the normalised marginal over the axes `A` is the weighted sum,
over the cells of the full spectrum, of the weight applied to the frequencies with the positions `A` dropped; the
decompositions are then identities between the weights, cell by cell.
-/
import SfsModel.Lemmas.Marginalize
import SfsModel.Lemmas.StatSum
namespace Sfs
open Finset

theorem dropFrom_zip_map {β γ δ : Type} (A : List Nat) (F : β × γ → δ) :
    ∀ (l : List β) (m : List γ) (n : Nat),
      ((dropFrom A l n).zip (dropFrom A m n)).map F = dropFrom A ((l.zip m).map F) n
  | [], m, n => by simp [dropFrom_nil]
  | _ :: _, [], n => by simp [dropFrom_nil]
  | x :: l, y :: m, n => by
    have ih := dropFrom_zip_map A F l m (n + 1)
    simp only [List.zip_cons_cons, List.map_cons, dropFrom_cons]
    by_cases h : n ∈ A
    · simp only [if_pos h, ih]
    · simp only [if_neg h, List.zip_cons_cons, List.map_cons, ih]

theorem freqsOf_dropIdx {α : Type} [Field α] (A : List Nat) (shape idx : List Nat) :
    (freqsOf (dropIdx A shape) (dropIdx A idx) : List α) = dropIdx A (freqsOf shape idx) :=
  dropFrom_zip_map A _ idx shape 0

section
variable {α : Type} [Field α]

theorem freqSum_marg (w : List α → α) (A : List Nat) (a b : Arr α) (hb : IsMarg A a b)
    (hlen : a.data.length = size a.shape) :
    freqSum w (normalized b)
      = sf_wsum (size a.shape) a.data (fun f => w (dropIdx A (freqsOf a.shape (unflat a.shape f)))) / sumList a.data := by
  rw [freqSum_normalized, hb.data_length, sumList_eq_sum, sumList_eq_sum, hb.mass hlen]
  refine congrArg (· / _) ((wsum_congr fun t ht => by rw [freqs_eq _ _ ht]).trans
    ((hb.sum_mul (fun idx => w (freqsOf b.shape idx))).trans ?_))
  simp only [hb.1, freqsOf_dropIdx, sf_wsum]

theorem freqSum_marginalize (w : List α → α) (a : Arr α) (axes : List Nat) (hlen : a.data.length = size a.shape)
    (hnd : axes.Nodup) (hb : ∀ ax ∈ axes, ax < a.shape.length) (hl : axes.length < a.shape.length) :
    ∃ b, marginalize a axes = .ok b ∧
      freqSum w (normalized b)
        = sf_wsum (size a.shape) a.data (fun f => w (dropIdx axes (freqsOf a.shape (unflat a.shape f)))) / sumList a.data :=
  ⟨_, marginalize_ok a axes hnd hb hl, freqSum_marg w axes a _ (marginalize_isMarg a axes hlen hnd hb) hlen⟩

/-- the spectrum itself in the same form (no position dropped) -/
theorem freqSum_full (w : List α → α) (a : Arr α) (hlen : a.data.length = size a.shape) :
    freqSum w (normalized a)
      = sf_wsum (size a.shape) a.data (fun f => w (freqsOf a.shape (unflat a.shape f))) / sumList a.data := by
  rw [freqSum_normalized, hlen]
  exact congrArg (· / _) (wsum_congr fun f hf => by rw [freqs_eq _ _ hf])

abbrev f2w : List α → α := fun f => (nth f 0 - nth f 1) * (nth f 0 - nth f 1)
abbrev f3w : List α → α := fun f => (nth f 0 - nth f 1) * (nth f 0 - nth f 2)
abbrev f4w : List α → α := fun f => (nth f 0 - nth f 1) * (nth f 2 - nth f 3)

theorem f3w_from_f2w (l : List α) (h : l.length = 3) :
    f2w (dropIdx [2] l) + f2w (dropIdx [1] l) - f2w (dropIdx [0] l) = 2 * f3w l := by
  match l, h with
  | [p, q, r], _ =>
    show f2w [p, q] + f2w [p, r] - f2w [q, r] = 2 * f3w [p, q, r]
    simp only [f2w, f3w, nth, List.getD_cons_zero, List.getD_cons_succ]
    ring

theorem f4w_from_f2w (l : List α) (h : l.length = 4) :
    f2w (dropIdx [1, 2] l) + f2w (dropIdx [0, 3] l) - f2w (dropIdx [1, 3] l) - f2w (dropIdx [0, 2] l)
      = 2 * f4w l := by
  match l, h with
  | [p, q, r, s], _ =>
    show f2w [p, s] + f2w [q, r] - f2w [p, r] - f2w [q, s] = 2 * f4w [p, q, r, s]
    simp only [f2w, f4w, nth, List.getD_cons_zero, List.getD_cons_succ]
    ring

end

end Sfs
