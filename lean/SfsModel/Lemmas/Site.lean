/-
One record against the specification: the cases of `siteSpec`, the columns of a population against its listed
samples, and the bounds that follow (ALT counts index the output, a complete record's called totals are the sizes); `countsAt`.
-/
import SfsModel.Lemmas.Tally
import SfsModel.Lemmas.Index
import Batteries.Data.List.Perm
namespace Sfs
open Sfs.Spec

theorem siteSpec_noproj (cfg : SiteCfg) (hnp : cfg.projectTo = none) (gts : List GtRes) :
    siteSpec cfg gts =
      if hasPloidyError (selected cfg.map cfg.cols gts) then none
      else if complete (selected cfg.map cfg.cols gts)
        then some (.standard (altCounts (numPops cfg.map) (selected cfg.map cfg.cols gts)))
        else some .insufficient := by
  unfold siteSpec
  simp only [hnp]

theorem siteSpec_noproj_complete (cfg : SiteCfg) (hnp : cfg.projectTo = none) (gts : List GtRes)
    (hpe : hasPloidyError (selected cfg.map cfg.cols gts) = false)
    (hcomp : complete (selected cfg.map cfg.cols gts) = true) :
    siteSpec cfg gts = some (.standard (altCounts (numPops cfg.map) (selected cfg.map cfg.cols gts))) := by
  rw [siteSpec_noproj cfg hnp, hpe, hcomp]
  rfl

theorem siteSpec_none_iff (cfg : SiteCfg) (gts : List GtRes) :
    siteSpec cfg gts = none ↔ hasPloidyError (selected cfg.map cfg.cols gts) = true := by
  unfold siteSpec
  simp only
  cases hasPloidyError (selected cfg.map cfg.cols gts) with
  | true => exact ⟨fun _ => rfl, fun _ => rfl⟩
  | false =>
    refine ⟨fun h => ?_, fun h => nomatch h⟩
    rw [if_neg Bool.false_ne_true] at h
    split at h
    · split at h <;> cases h
    · split at h
      · cases h
      · split at h <;> cases h

theorem siteSpec_congr (cfg : SiteCfg) (gts gts' : List GtRes)
    (h : selected cfg.map cfg.cols gts = selected cfg.map cfg.cols gts') : siteSpec cfg gts = siteSpec cfg gts' := by
  unfold siteSpec
  rw [h]

theorem siteSpec_some_inv (cfg : SiteCfg) (gts : List GtRes) (s : Site) (h : siteSpec cfg gts = some s) :
    (s = .standard (altCounts (numPops cfg.map) (selected cfg.map cfg.cols gts)) ∧
      (cfg.projectTo = none ∨
        cfg.projectTo = some (calledTotals (numPops cfg.map) (selected cfg.map cfg.cols gts)))) ∨
    (∃ pt, s = .projected (calledTotals (numPops cfg.map) (selected cfg.map cfg.cols gts))
        (altCounts (numPops cfg.map) (selected cfg.map cfg.cols gts)) ∧ cfg.projectTo = some pt ∧
      calledTotals (numPops cfg.map) (selected cfg.map cfg.cols gts) ≠ pt ∧
      (List.zipWith (fun t m => decide (m ≤ t))
        (calledTotals (numPops cfg.map) (selected cfg.map cfg.cols gts)) pt).all id = true) ∨
    s = .insufficient := by
  unfold siteSpec at h
  simp only at h
  -- the Boolean tests are decided by cases on their value, so that `h` reduces by evaluation
  generalize hasPloidyError (selected cfg.map cfg.cols gts) = pe at h
  generalize complete (selected cfg.map cfg.cols gts) = cm at h
  cases pe with
  | true => cases h
  | false =>
    cases hq : cfg.projectTo with
    | none =>
      rw [hq] at h
      cases cm with
      | false => cases h; exact Or.inr (Or.inr rfl)
      | true => cases h; exact Or.inl ⟨rfl, Or.inl rfl⟩
    | some pt =>
      -- `t = pt` is a proposition, not a Boolean value: `simp only` removes the test in front of it, `by_cases` decides it
      simp only [hq, Bool.false_eq_true, if_false] at h
      by_cases hexact : calledTotals (numPops cfg.map) (selected cfg.map cfg.cols gts) = pt
      · rw [if_pos hexact] at h
        cases h
        exact Or.inl ⟨rfl, Or.inr (by rw [hexact])⟩
      · rw [if_neg hexact] at h
        cases hall : (List.zipWith (fun t m => decide (m ≤ t))
          (calledTotals (numPops cfg.map) (selected cfg.map cfg.cols gts)) pt).all id with
        | false => rw [hall] at h; cases h; exact Or.inr (Or.inr rfl)
        | true => rw [hall] at h; cases h; exact Or.inr (Or.inl ⟨pt, rfl, rfl, hexact, hall⟩)

theorem siteSpec_proj (cfg : SiteCfg) (pt : List Nat) (hp : cfg.projectTo = some pt)
    (hl : pt.length = numPops cfg.map) (gts : List GtRes)
    (hne : hasPloidyError (selected cfg.map cfg.cols gts) = false) :
    siteSpec cfg gts =
      some (if calledTotals (numPops cfg.map) (selected cfg.map cfg.cols gts) = pt
            then .standard (altCounts (numPops cfg.map) (selected cfg.map cfg.cols gts))
            else if ∀ j, j < pt.length →
                pt.getD j 0 ≤ (calledTotals (numPops cfg.map) (selected cfg.map cfg.cols gts)).getD j 0
              then .projected (calledTotals (numPops cfg.map) (selected cfg.map cfg.cols gts))
                (altCounts (numPops cfg.map) (selected cfg.map cfg.cols gts))
            else .insufficient) := by
  unfold siteSpec
  simp only [hne, hp, Bool.false_eq_true, if_false]
  have hz := all_zipWith_decide_le_iff (calledTotals (numPops cfg.map) (selected cfg.map cfg.cols gts)) pt
    (by rw [calledTotals_length, hl])
  rw [apply_ite some, apply_ite some]
  exact if_congr Iff.rfl rfl (if_congr hz rfl rfl)

theorem cols_filter_le (map : List (String × Nat)) (cols : List String) (hnd : cols.Nodup) (j : Nat) :
    (cols.filter (fun c => lookupPop map c = some j)).length ≤ (map.filter (fun p => p.2 = j)).length := by
  have hnd' : (cols.filter (fun c => lookupPop map c = some j)).Nodup := hnd.sublist List.filter_sublist
  have hsub : cols.filter (fun c => lookupPop map c = some j) ⊆ (map.filter (fun p => p.2 = j)).map (·.1) := by
    intro c hc
    have hm := mem_of_lookupPop_eq_some map c j (by simpa using (List.mem_filter.mp hc).2)
    exact List.mem_map.mpr ⟨(c, j), List.mem_filter.mpr ⟨hm, by simp⟩, rfl⟩
  simpa using (List.subperm_of_subset hnd' hsub).length_le

theorem cols_filter_length_eq {cfg : SiteCfg} (hc : CfgOk cfg) (j : Nat) :
    (cfg.cols.filter (fun c => lookupPop cfg.map c = some j)).length = (cfg.map.filter (fun p => p.2 = j)).length := by
  refine Nat.le_antisymm (cols_filter_le cfg.map cfg.cols hc.cols_nodup j) ?_
  have hnd' : ((cfg.map.filter (fun p => p.2 = j)).map (·.1)).Nodup := hc.keys_nodup.sublist (List.filter_sublist.map _)
  have hsub : (cfg.map.filter (fun p => p.2 = j)).map (·.1) ⊆ cfg.cols.filter (fun c => lookupPop cfg.map c = some j) := by
    intro c hm
    obtain ⟨p, hp, rfl⟩ := List.mem_map.mp hm
    obtain ⟨hp1, hp2⟩ := List.mem_filter.mp hp
    have hp2' : p.2 = j := by simpa using hp2
    exact List.mem_filter.mpr ⟨hc.mem_cols p hp1, decide_eq_true ((lookupPop_eq_some_iff hc.keys_nodup p.1 j).mpr (hp2' ▸ hp1))⟩
  simpa using (List.subperm_of_subset hnd' hsub).length_le

theorem altOf_le_calledOf (g : GtRes) (h : ∀ k, g = .genotype k → k ≤ 2) : altOf g ≤ calledOf g := by
  cases g with
  | genotype k => simpa [altOf, calledOf] using h k rfl
  | skipped s => simp [altOf, calledOf]
  | ploidyError => simp [altOf, calledOf]

theorem popSum_altOf_le_calledOf (map : List (String × Nat)) (cols : List String) (gts : List GtRes)
    (h : ∀ k, GtRes.genotype k ∈ gts → k ≤ 2) (j : Nat) :
    popSum altOf (selected map cols gts) j ≤ popSum calledOf (selected map cols gts) j :=
  popSum_mono _ _ j _ fun p hp => altOf_le_calledOf p.2 fun k e => h k (e ▸ mem_selected_snd map cols gts p hp)

theorem popSum_altOf_le_two_mul (map : List (String × Nat)) (cols : List String) (hnd : cols.Nodup) (gts : List GtRes)
    (hl : gts.length = cols.length) (h : ∀ k, GtRes.genotype k ∈ gts → k ≤ 2) (j : Nat) :
    popSum altOf (selected map cols gts) j ≤ 2 * (map.filter (fun p => p.2 = j)).length := by
  have h1 := popSum_altOf_le_calledOf map cols gts h j
  have h2 := popSum_mono calledOf (fun _ => 2) j (selected map cols gts) (fun p _ => by cases p.2 <;> simp [calledOf])
  rw [popSum_const, selected_filter_length map cols gts hl] at h2
  have := cols_filter_le map cols hnd j
  omega

theorem alt_in_bounds (cfg : SiteCfg) (hnd : cfg.cols.Nodup) (hnp : cfg.projectTo = none) (gts : List GtRes)
    (hl : gts.length = cfg.cols.length) (h : ∀ k, GtRes.genotype k ∈ gts → k ≤ 2) :
    InB cfg.outShape (altCounts (numPops cfg.map) (selected cfg.map cfg.cols gts)) := by
  simp only [SiteCfg.outShape, hnp, mapShape, altCounts_eq]
  apply InB_range_map
  intro j _
  have := popSum_altOf_le_two_mul cfg.map cfg.cols hnd gts hl h j
  omega

theorem alt_inB_totals (npop : Nat) (sel : List (Nat × GtRes))
    (h : ∀ j, popSum altOf sel j ≤ popSum calledOf sel j) :
    InB ((calledTotals npop sel).map (· + 1)) (altCounts npop sel) := by
  rw [calledTotals_eq, altCounts_eq, List.map_map]
  apply InB_range_map
  intro j _
  have := h j
  simp only [Function.comp]
  omega

/-- Hence `addOne` never takes its out-of-bounds branch on a well-formed record, with or without projection. -/
theorem standard_in_bounds (cfg : SiteCfg) (hnd : cfg.cols.Nodup) (gts : List GtRes)
    (hl : gts.length = cfg.cols.length) (hk : ∀ k, GtRes.genotype k ∈ gts → k ≤ 2) (c : List Nat)
    (h : siteSpec cfg gts = some (.standard c)) : InB cfg.outShape c := by
  obtain ⟨e, hq | hq⟩ | ⟨_, e, _⟩ | e := siteSpec_some_inv cfg gts _ h <;> cases e
  · exact alt_in_bounds cfg hnd hq gts hl hk
  · simp only [SiteCfg.outShape, hq]
    exact alt_inB_totals _ _ (popSum_altOf_le_calledOf cfg.map cfg.cols gts hk)

theorem calledTotals_complete (cfg : SiteCfg) (hc : CfgOk cfg) (l : List GtRes) (hl : l.length = cfg.cols.length)
    (hcomp : complete (selected cfg.map cfg.cols l) = true) :
    calledTotals (numPops cfg.map) (selected cfg.map cfg.cols l) = (mapShape cfg.map).map (· - 1) := by
  rw [calledTotals_eq, mapShape, List.map_map]
  apply List.map_congr_left
  intro j _
  rw [popSum_congr calledOf (fun _ => 2) j _ (fun p hp => ?_), popSum_const, selected_filter_length _ _ _ hl,
    cols_filter_length_eq hc j]
  · simp only [Function.comp]
    omega
  · obtain ⟨k, hk⟩ := (complete_iff _).1 hcomp p hp
    rw [hk]
    rfl

/-- The filter in the statement of `C01.run_eq_spec`. -/
def countsAt (cfg : SiteCfg) (k : List Nat) (r : Rec) : Bool :=
  match gtsOf r with
  | some l => complete (selected cfg.map cfg.cols l) ∧ altCounts (numPops cfg.map) (selected cfg.map cfg.cols l) = k
  | none => false

end Sfs
