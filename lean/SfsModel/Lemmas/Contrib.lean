/-
The contribution of one site where the hypergeometric algebra is needed: a down-sampled site entry by entry, the
boundary case `t = m`, create-then-project on one complete record (C02); a counted site has weight one (C10).
-/
import SfsModel.Model.Cli
import SfsModel.Lemmas.Create
import SfsModel.Lemmas.Samples
import SfsModel.Lemmas.Hyper
namespace Sfs
open Sfs.Spec

section field
variable {α : Type} [Field α]

theorem outShape_proj (cfg : SiteCfg) (pt : List Nat) (hp : cfg.projectTo = some pt) :
    cfg.outShape = pt.map (· + 1) := by
  simp only [SiteCfg.outShape, hp]

theorem contribOfSite_projected_getD (cfg : SiteCfg) (pt t a : List Nat) (hp : cfg.projectTo = some pt)
    (f : Nat) (hf : f < size (pt.map (· + 1))) :
    (contribOfSite (α := α) cfg (some (.projected t a))).getD f 0
      = projectValue t a pt (unflat (pt.map (· + 1)) f) := by
  simp only [contribOfSite, SiteCfg.outShape, hp, Option.getD_some]
  rw [getD_range_map, if_pos hf]

theorem contribOfSite_exact_eq_projected (cfg : SiteCfg) (pt a : List Nat) (hp : cfg.projectTo = some pt)
    (hl : a.length = pt.length) (hle : ∀ j, j < pt.length → a.getD j 0 ≤ pt.getD j 0) :
    contribOfSite (α := α) cfg (some (.standard a)) = contribOfSite (α := α) cfg (some (.projected pt a)) := by
  have hin : InB (pt.map (· + 1)) a := (InB_iff_getD _ _).2 ⟨hl.trans (List.length_map _).symm, fun j hj => by
    rw [List.length_map] at hj; rw [getD_map_of_lt (· + 1) pt hj 0 0]; exact Nat.lt_succ_of_le (hle j hj)⟩
  simp only [contribOfSite, SiteCfg.outShape, hp, Option.getD_some]
  apply List.map_congr_left
  intro f hf
  have hf' := List.mem_range.mp hf
  rw [projectValue_self (α := α) hin.le_of_succ (unflat_inB _ f hf').le_of_succ]
  by_cases e : flat (pt.map (· + 1)) a = f
  · rw [if_pos ⟨e, hin⟩, if_pos (by rw [← e]; exact unflat_flat _ _ hin)]
  · rw [if_neg (fun h => e h.1), if_neg]
    intro h
    apply e
    rw [← h, flat_unflat _ _ hf']

theorem contrib_project_complete (cfg : SiteCfg) (hc : CfgOk cfg) (hnp : cfg.projectTo = none) (pt : List Nat)
    (hl : pt.length = numPops cfg.map)
    (hle : ∀ j, j < pt.length → pt.getD j 0 + 1 ≤ (mapShape cfg.map).getD j 0)
    (l : List GtRes) (hwf : l.length = cfg.cols.length) (hwf2 : ∀ k, GtRes.genotype k ∈ l → k ≤ 2)
    (hpe : hasPloidyError (selected cfg.map cfg.cols l) = false)
    (hcomp : complete (selected cfg.map cfg.cols l) = true) (t : Nat) (ht : t < size (pt.map (· + 1))) :
    ∑ f ∈ Finset.range (size (mapShape cfg.map)), (contrib (α := α) cfg l).getD f 0 *
        projectValue ((mapShape cfg.map).map (· - 1)) (unflat (mapShape cfg.map) f) pt (unflat (pt.map (· + 1)) t)
      = (contrib (α := α) ⟨cfg.map, cfg.cols, some pt⟩ l).getD t 0 := by
  -- The unprojected contribution is the unit vector at `flat a`, `a` the ALT counts, so the sum is its one term
  -- `projectValue n a pt (unflat t)`, `n` the sample sizes. A complete record has called totals `n`
  -- (`calledTotals_complete`); so under the target `siteSpec` is `standard a` if `n = pt` and `projected n a` otherwise,
  -- and `contribOfSite_exact_eq_projected` merges the two.
  have hS : cfg.outShape = mapShape cfg.map := by simp only [SiteCfg.outShape, hnp]
  have hin := alt_in_bounds cfg hc.cols_nodup hnp l hwf hwf2
  rw [hS] at hin
  have hs := siteSpec_noproj_complete cfg hnp l hpe hcomp
  have hct := calledTotals_complete cfg hc l hwf hcomp
  have hsp := siteSpec_proj ⟨cfg.map, cfg.cols, some pt⟩ pt rfl hl l hpe
  rw [hct] at hsp
  generalize altCounts (numPops cfg.map) (selected cfg.map cfg.cols l) = a at hin hs hsp
  have hL : ∀ f, (contrib (α := α) cfg l).getD f 0 = if flat (mapShape cfg.map) a = f then 1 else 0 := by
    intro f
    unfold contrib
    rw [hs, contribOfSite_standard_getD, hS]
    simp only [hin, and_true]
  simp only [hL, ite_mul, one_mul, zero_mul]
  rw [Finset.sum_ite_eq, if_pos (Finset.mem_range.mpr (flat_lt _ _ hin)), unflat_flat _ _ hin]
  obtain ⟨hal, hab⟩ := (InB_iff_getD _ _).mp hin
  rw [mapShape_length] at hal hab
  unfold contrib
  rw [hsp]
  by_cases hexact : (mapShape cfg.map).map (· - 1) = pt
  · -- `n = pt`: counted exactly; side goal `a ≤ pt`, from `hin`
    rw [if_pos hexact, contribOfSite_exact_eq_projected _ pt a rfl (hal.trans hl.symm) ?_,
      contribOfSite_projected_getD _ pt pt a rfl t ht, hexact]
    intro j hj
    rw [← hexact, getD_map_pred]
    exact Nat.le_sub_one_of_lt (hab j (hl ▸ hj))
  · -- `n ≠ pt`: down-sampled; side goal the guard `pt ≤ n` of `siteSpec_proj`: `hle`
    rw [if_neg hexact, if_pos ?_, contribOfSite_projected_getD _ pt _ a rfl t ht]
    intro j hj
    rw [getD_map_pred]
    exact Nat.le_sub_one_of_lt (hle j hj)

theorem contribOfSite_standard_sum (cfg : SiteCfg) (c : List Nat) (hin : InB cfg.outShape c) :
    (contribOfSite (α := α) cfg (some (.standard c))).sum = 1 := by
  simp only [contribOfSite, hin, and_true]
  rw [list_range_sum, Finset.sum_ite_eq]
  simp [flat_lt _ _ hin]

theorem contribOfSite_projected_sum [CharZero α] (cfg : SiteCfg) (pt t a : List Nat) (hq : cfg.projectTo = some pt)
    (hl : t.length = pt.length) (hin : InB (t.map (· + 1)) a)
    (hle : ∀ j, j < pt.length → pt.getD j 0 ≤ t.getD j 0) :
    (contribOfSite (α := α) cfg (some (.projected t a))).sum = 1 := by
  simp only [contribOfSite, SiteCfg.outShape, hq, Option.getD_some]
  rw [list_range_sum, sum_unflat (pt.map (· + 1)) (fun tidx => (projectValue t a pt tidx : α))]
  exact sumBox_projectValue hin.le_of_succ (forall₂_le_of_getD hl.symm hle)

theorem contrib_sum_one [CharZero α] (cfg : SiteCfg) (hc : CfgOk cfg) (gts : List GtRes)
    (hl : gts.length = cfg.cols.length) (hk : ∀ k, GtRes.genotype k ∈ gts → k ≤ 2)
    (s : Site) (h : siteSpec cfg gts = some s) (hs : s ≠ .insufficient) :
    (contrib (α := α) cfg gts).sum = 1 := by
  unfold contrib
  rw [h]
  obtain ⟨rfl, _⟩ | ⟨pt, rfl, hq, _, hall⟩ | rfl := siteSpec_some_inv cfg gts s h
  · exact contribOfSite_standard_sum cfg _ (standard_in_bounds cfg hc.cols_nodup gts hl hk _ h)
  · have hlen : (calledTotals (numPops cfg.map) (selected cfg.map cfg.cols gts)).length = pt.length :=
      (calledTotals_length _ _).trans (hc.projectTo_length pt hq).symm
    exact contribOfSite_projected_sum cfg pt _ _ hq hlen
      (alt_inB_totals _ _ (popSum_altOf_le_calledOf cfg.map cfg.cols gts hk))
      ((all_zipWith_decide_le_iff _ _ hlen).mp hall)
  · exact absurd rfl hs

theorem recContrib_sum [CharZero α] (cfg : SiteCfg) (hc : CfgOk cfg) (r : Rec) (hwf : RecWf cfg r)
    (hok : recOk cfg r = true) :
    (recContrib (α := α) cfg r).sum = if recSkipped cfg r then 0 else 1 := by
  cases r with
  | corrupt c p => simp [recOk] at hok
  | gts c p l =>
    simp only [recOk] at hok
    cases hs : siteSpec cfg l with
    | none => rw [hs] at hok; cases hok
    | some s =>
      by_cases e : s = .insufficient
      · subst e
        simp [recContrib, contrib, hs, recSkipped, contribOfSite_insufficient]
      · have hsk : recSkipped cfg (.gts c p l) = false := by simp [recSkipped, hs, e]
        rw [hsk]
        exact contrib_sum_one cfg hc l hwf.1 hwf.2 s hs e

theorem sumContrib_sum [CharZero α] (cfg : SiteCfg) (hc : CfgOk cfg) (recs : List Rec)
    (hwf : ∀ r ∈ recs, RecWf cfg r) (hok : ∀ r ∈ recs, recOk cfg r = true) :
    (sumContrib (α := α) cfg recs).sum = ((recs.length - (recs.filter (recSkipped cfg)).length : Nat) : α) := by
  -- `* 1`: the weighted form `sumContrib_weighted` takes, with weight 1
  have hsum : ∀ l : List α, l.length = size cfg.outShape →
      l.sum = ∑ f ∈ Finset.range (size cfg.outShape), l.getD f 0 * 1 := by
    intro l h
    simp only [mul_one, ← h]
    exact list_sum_eq_range l
  rw [hsum _ (sumContrib_length cfg recs), sumContrib_weighted,
    List.map_congr_left (g := fun r => if !recSkipped cfg r then (1 : α) else 0), sum_indicator]
  · congr 1
    have := List.length_eq_length_filter_add (l := recs) (recSkipped cfg)
    omega
  · intro r hr
    rw [← hsum _ (recContrib_length cfg r), recContrib_sum cfg hc r (hwf r hr) (hok r hr)]
    cases recSkipped cfg r <;> rfl

end field

/-- Here for `C10.all_or_nothing`: the text lemma files need imports that C10 does not have. -/
theorem writeText_ne_nil (shape : List Nat) (bits : List Nat) (p : Nat) : writeText shape bits p ≠ [] := by
  unfold writeText
  exact List.append_ne_nil_of_right_ne_nil _ (List.cons_ne_nil _ _)

end Sfs
