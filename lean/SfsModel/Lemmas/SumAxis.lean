/-
`Array::sum` along an axis: the fold of the axis views into zeros gives, entry by entry, the sum over that axis.
-/
import SfsModel.Lemmas.Odometer
import Mathlib.Algebra.BigOperators.Group.Finset.Basic
namespace Sfs

/-- One step of the `zip`-accumulate used by `Array::sum`: equal lengths, so nothing is left over. -/
theorem zipWith_add_range {α} [Add α] (M : Nat) (g h : Nat → α) :
    List.zipWith (· + ·) ((List.range M).map g) ((List.range M).map h)
        ++ ((List.range M).map g).drop ((List.range M).map h).length
      = (List.range M).map (fun t => g t + h t) := by
  rw [List.drop_of_length_le (by simp), List.append_nil]
  apply List.ext_getElem
  · simp
  · intro t h1 h2
    simp

/-- The accumulation loop of `Array::sum` and of `Spectrum::project`: rows folded into zeros give the column sums. -/
theorem foldl_zipWith_range {α} [AddCommMonoid α] (M n : Nat) (f : Nat → Nat → α) :
    (List.range n).foldl
        (fun acc i => List.zipWith (· + ·) acc ((List.range M).map (f i))
          ++ acc.drop ((List.range M).map (f i)).length)
        (List.replicate M (0 : α))
      = (List.range M).map (fun t => ∑ i ∈ Finset.range n, f i t) := by
  induction n with
  | zero =>
    apply List.ext_getElem
    · simp
    · intro t h1 h2; simp
  | succ n ih =>
    rw [List.range_succ, List.foldl_append, ih]
    simp only [List.foldl_cons, List.foldl_nil]
    rw [zipWith_add_range]
    apply List.map_congr_left
    intro t _
    rw [Finset.sum_range_succ]

theorem sumAxis_data {α} [AddCommMonoid α] (a : Arr α) (axis : Nat)
    (hlen : a.data.length = size a.shape) (hax : axis < a.shape.length) :
    (a.sumAxis axis).data = (List.range (size (removeAt a.shape axis))).map (fun t =>
      ∑ i ∈ Finset.range (a.shape.getD axis 0),
        a.data.getD (flat a.shape (insertAt (unflat (removeAt a.shape axis) t) axis i)) 0) := by
  have htl : ∀ i ∈ List.range (a.shape.getD axis 0), (axisView a axis i).toList
      = (List.range (size (removeAt a.shape axis))).map (fun t =>
          a.data.getD (flat a.shape (insertAt (unflat (removeAt a.shape axis) t) axis i)) 0) := fun i hi =>
    (eq_map_getD_of_map_some 0 (axisView_toList a axis i hlen hax (List.mem_range.mp hi))).trans
      (List.map_congr_left fun _ _ => (List.getD_eq_getElem?_getD ..).symm)
  show List.foldl _ _ (a.axisViews axis) = _
  rw [axisViews_eq a axis hax, List.foldl_map, ← foldl_zipWith_range]
  exact List.foldl_ext _ _ _ fun acc i hi => by rw [htl i hi]

end Sfs
