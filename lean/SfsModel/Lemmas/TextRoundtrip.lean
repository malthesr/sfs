/-
The text reader on what the text writer emits: a printed value is a token, the header line reads back, the value line
splits into the printed tokens, so `readText` on the writer's output is the parse of each token and the count.
-/
import SfsModel.Lemmas.Bytes
import SfsModel.Lemmas.RoundHE
namespace Sfs

/-- a token: non-empty, no ASCII whitespace. -/
def IsTok (t : List Char) : Prop := t ≠ [] ∧ ∀ c ∈ t, isAsciiWs c = false

theorem isAsciiWs_false_of_isDigit {c : Char} (h : c.isDigit = true) : isAsciiWs c = false := by
  have := isDigit_toNat h
  simp only [isAsciiWs, decide_eq_false_iff_not]
  rintro (rfl | rfl | rfl | rfl | rfl) <;> simp at this

theorem padDigits_isDigit {n w : Nat} : ∀ c ∈ padDigits n w, c.isDigit = true := by
  intro c hc
  simp only [padDigits, List.mem_append, List.mem_replicate] at hc
  rcases hc with ⟨_, rfl⟩ | hc
  · rfl
  · exact toDigits_isDigit n c hc

/-- the characters of `m / 10^p` with exactly `p` decimals. -/
def fmtScaled (m p : Nat) : List Char :=
  if p = 0 then Nat.toDigits 10 (m / 10 ^ p) else Nat.toDigits 10 (m / 10 ^ p) ++ '.' :: padDigits (m % 10 ^ p) p

theorem fmtRatFixed_eq (q : Rat) (p : Nat) :
    fmtRatFixed q p = fmtScaled (roundHE (q.num.natAbs * 10 ^ p) q.den) p := rfl

theorem fmtScaled_chars {m p : Nat} : ∀ c ∈ fmtScaled m p, c.isDigit = true ∨ c = '.' := by
  intro c hc
  unfold fmtScaled at hc
  split at hc
  · exact .inl (toDigits_isDigit _ c hc)
  · rcases List.mem_append.1 hc with hc | hc
    · exact .inl (toDigits_isDigit _ c hc)
    · rcases List.mem_cons.1 hc with rfl | hc
      · exact .inr rfl
      · exact .inl (padDigits_isDigit c hc)

theorem fmtScaled_head (m p : Nat) : ∃ c t, fmtScaled m p = c :: t ∧ c.isDigit = true := by
  obtain ⟨c, t, h, hc⟩ := showNat_head (m / 10 ^ p)
  unfold fmtScaled
  split
  · exact ⟨c, t, h, hc⟩
  · exact ⟨c, t ++ _, congrArg (· ++ _) h, hc⟩

theorem fmtFixed_nan (b p : Nat) (h : f64OfBits b = .nan) : fmtFixed b p = "NaN".toList := by
  simp only [fmtFixed, h]

theorem fmtFixed_inf (b p : Nat) (s : Bool) (h : f64OfBits b = .inf s) :
    fmtFixed b p = if s then "-inf".toList else "inf".toList := by
  simp only [fmtFixed, h]

theorem fmtFixed_fin (b p : Nat) (q : Rat) (h : f64OfBits b = .fin q) :
    fmtFixed b p = (if f64Sign b then ['-'] else []) ++ fmtRatFixed (absRat q) p := by
  simp only [fmtFixed, h]

theorem parseF64_NaN : parseF64 "NaN".toList = some (2047 * 2 ^ 52 + 2 ^ 51) := by decide +kernel
theorem parseF64_inf : parseF64 "inf".toList = some (2047 * 2 ^ 52) := by decide +kernel
theorem parseF64_neg_inf : parseF64 "-inf".toList = some (2 ^ 63 + 2047 * 2 ^ 52) := by decide +kernel

/-- every character a value is printed with. -/
theorem fmtFixed_chars (b p : Nat) : ∀ c ∈ fmtFixed b p, c.isDigit = true ∨ c ∈ ".-NaNinf".toList := by
  unfold fmtFixed
  split
  · decide
  · split <;> decide
  · intro c hc
    rcases List.mem_append.1 hc with hc | hc
    · split at hc
      · rw [List.mem_singleton.1 hc]; decide
      · cases hc
    · rcases fmtScaled_chars c hc with h | rfl
      · exact .inl h
      · decide

theorem fmtFixed_tok (b p : Nat) : IsTok (fmtFixed b p) := by
  constructor
  · unfold fmtFixed
    split
    · decide
    · split <;> decide
    · rename_i q _
      obtain ⟨c, t, h, _⟩ := fmtScaled_head (roundHE ((absRat q).num.natAbs * 10 ^ p) (absRat q).den) p
      rw [fmtRatFixed_eq, h]
      exact List.append_ne_nil_of_right_ne_nil _ (List.cons_ne_nil c t)
  · intro c hc
    rcases fmtFixed_chars b p c hc with h | h
    · exact isAsciiWs_false_of_isDigit h
    · clear hc; revert c; decide

theorem fmtFixed_ascii (b p : Nat) : ∀ c ∈ fmtFixed b p, c.toNat < 128 := by
  intro c hc
  rcases fmtFixed_chars b p c hc with h | h
  · exact isDigit_lt128 h
  · clear hc; revert c; decide

theorem splitOnChar_eq (c : Char) (s : List Char) : splitOnChar c s = s.splitOn c :=
  eq_splitOnP (· == c) (splitOnChar c) rfl (fun x xs cur rest h => by
    rw [splitOnChar, h]; simp only [beq_iff_eq]) s

theorem splitOnChar_joinNats (shape : List Nat) (hne : shape ≠ []) :
    splitOnChar '/' (joinNats ['/'] shape) = shape.map showNat := by
  rw [splitOnChar_eq, joinNats_eq]
  apply List.splitOn_intercalate
  · intro l hl hm
    obtain ⟨a, _, rfl⟩ := List.mem_map.1 hl
    have := toDigits_isDigit a _ hm
    simp at this
  · simpa using hne

theorem parseUsize_of_digits (s : List Char) (hne : s ≠ []) (hall : ∀ c ∈ s, c.isDigit = true)
    (hv : digitsVal s < 2 ^ 64) : parseUsize s = some (digitsVal s) := by
  have hall' : s.all Char.isDigit = true := by simpa [List.all_eq_true] using hall
  have hne' : s.isEmpty = false := List.isEmpty_eq_false_iff.2 hne
  unfold parseUsize
  split
  · have := hall '+' (by simp)
    simp at this
  · simp only [hne', hall', hv, Bool.not_true, Bool.or_self, Bool.false_eq_true, if_false, if_true]

theorem parseUsize_showNat (v : Nat) (hv : v < 2 ^ 64) : parseUsize (showNat v) = some v := by
  have e : digitsVal (showNat v) = v := digitsVal_toDigits v
  have := parseUsize_of_digits (showNat v) (showNat_ne_nil v) (toDigits_isDigit v) (by rwa [e])
  rwa [e] at this

theorem trimStart_header (c : Char) (t : List Char) (hc : c.isDigit = true) :
    trimStartNonDigit ("#SHAPE=<".toList ++ c :: t) = c :: t := by
  simp [trimStartNonDigit, List.dropWhile, hc]

theorem trimEnd_gt (t : List Char) (c : Char) (hc : c.isDigit = true) :
    trimEndNonDigit (t ++ [c] ++ ['>']) = t ++ [c] := by
  simp [trimEndNonDigit, List.dropWhile, hc]

theorem parseTextHeader_textHeader (shape : List Nat) (hne : shape ≠ []) (hb : ∀ v ∈ shape, v < 2 ^ 64) :
    parseTextHeader (textHeader shape) = some shape := by
  unfold parseTextHeader textHeader
  obtain ⟨c, t, h, hc⟩ := joinNats_head ['/'] shape hne
  obtain ⟨t', c', h', hc'⟩ := joinNats_last ['/'] shape hne
  have h1 : trimStartNonDigit ("#SHAPE=<".toList ++ joinNats ['/'] shape ++ ['>']) = joinNats ['/'] shape ++ ['>'] := by
    rw [h, List.append_assoc, List.cons_append, trimStart_header c _ hc]
  rw [h1, h', trimEnd_gt t' c' hc', ← h', splitOnChar_joinNats shape hne]
  rw [mapM_map_some showNat parseUsize id shape (fun v hv => parseUsize_showNat v (hb v hv)), List.map_id]

theorem splitWs_ws_cons (c : Char) (cs : List Char) (h : isAsciiWs c = true) : splitWs (c :: cs) = splitWs cs := by
  simp [splitWs, h]

/-- a token followed by end of input or whitespace is split off whole. -/
theorem splitWs_tok_append (tok rest : List Char) (ht : IsTok tok)
    (hr : ∀ d, rest.head? = some d → isAsciiWs d = true) :
    splitWs (tok ++ rest) = tok :: splitWs rest := by
  obtain ⟨hne, hws⟩ := ht
  induction tok with
  | nil => exact absurd rfl hne
  | cons c t ih =>
    have hc : isAsciiWs c = false := hws c (by simp)
    cases t with
    | nil =>
      -- `c` is the token's last character: what follows is the end or a blank, so `[c]` is a token of its own
      cases rest with
      | nil => simp [splitWs, hc]
      | cons d r =>
        have hd := hr d rfl
        simp only [List.cons_append, List.nil_append, splitWs, hc, hd, if_true, Bool.false_eq_true, if_false]
        cases splitWs r <;> rfl
    | cons c' t' =>
      -- the next character `c'` is of the token too: `c` joins the head token the induction hypothesis gives
      have ih' := ih (by simp) (fun x hx => hws x (by simp [hx]))
      have hc' : isAsciiWs c' = false := hws c' (by simp)
      rw [List.cons_append, splitWs]
      simp only [hc, Bool.false_eq_true, if_false, ih']
      simp [hc']

/-- tokens each preceded by a space and the whole terminated by a newline. -/
theorem splitWs_sep_toks {toks : List (List Char)} (h : ∀ t ∈ toks, IsTok t) :
    splitWs (toks.flatMap (fun t => ' ' :: t) ++ ['\n']) = toks := by
  induction toks with
  | nil => decide
  | cons t ts ih =>
    have ih' := ih (fun x hx => h x (by simp [hx]))
    simp only [List.flatMap_cons, List.cons_append, List.append_assoc]
    rw [splitWs_ws_cons _ _ (by decide), splitWs_tok_append t _ (h t (by simp)), ih']
    intro d hd
    cases ts <;> (simp at hd; subst hd; decide)

theorem foldl_sep_eq {α} (f : α → List Char) (acc : List Char) (rest : List α) :
    rest.foldl (fun s x => s ++ ' ' :: f x) acc = acc ++ rest.flatMap (fun x => ' ' :: f x) := by
  induction rest generalizing acc with
  | nil => simp
  | cons x xs ih => simp [ih]

/-- the value line: tokens joined by single spaces, then the newline, split back into the tokens. -/
theorem splitWs_value_line {α} (f : α → List Char) (hf : ∀ x, IsTok (f x)) (b : α) (rest : List α) :
    splitWs (rest.foldl (fun s x => s ++ ' ' :: f x) (f b) ++ ['\n']) = (b :: rest).map f := by
  have ht : ∀ t ∈ (b :: rest).map f, IsTok t := by
    intro t ht
    obtain ⟨x, _, rfl⟩ := List.mem_map.1 ht
    exact hf x
  -- a blank in front changes nothing and makes the first token like the others
  rw [← splitWs_sep_toks ht, foldl_sep_eq, ← splitWs_ws_cons ' ' _ (by decide), List.flatMap_map]
  simp only [List.flatMap_cons, List.cons_append, List.append_assoc]

theorem writeText_tokens (shape bits : List Nat) (p : Nat) :
    ∃ line : List Char, writeText shape bits p = textHeader shape ++ ['\n'] ++ line ++ ['\n'] ∧
      splitWs (line ++ ['\n']) = bits.map (fun b => fmtFixed b p) := by
  cases bits with
  | nil => exact ⟨[], rfl, by simp [splitWs, isAsciiWs]⟩
  | cons b rest => exact ⟨_, rfl, splitWs_value_line (fun b => fmtFixed b p) (fun b => fmtFixed_tok b p) b rest⟩

theorem textHeader_ascii_ne_nl (shape : List Nat) : ∀ c ∈ textHeader shape, c.toNat < 128 ∧ c ≠ '\n' := by
  intro c hc
  unfold textHeader at hc
  simp only [List.mem_append] at hc
  rcases hc with (hc | hc) | hc
  · revert c; decide
  · rcases (spec_joinNats_chars _ _ c hc).symm with h | h
    · rw [List.mem_singleton] at h; subst h; exact ⟨by decide, by decide⟩
    · have := isDigit_toNat h
      refine ⟨by omega, ?_⟩
      rintro rfl
      simp at this
  · revert c; decide

theorem writeText_ascii (shape bits : List Nat) (p : Nat) : ∀ c ∈ writeText shape bits p, c.toNat < 128 := by
  intro c hc
  unfold writeText at hc
  simp only [List.mem_append] at hc
  rcases hc with ((hc | hc) | hc) | hc
  · exact (textHeader_ascii_ne_nl shape c hc).1
  · revert c; decide
  · cases bits with
    | nil => cases hc
    | cons b rest =>
      simp only [foldl_sep_eq, List.mem_append, List.mem_flatMap, List.mem_cons] at hc
      rcases hc with hc | ⟨x, _, rfl | hc⟩
      · exact fmtFixed_ascii b p c hc
      · decide
      · exact fmtFixed_ascii x p c hc
  · revert c; decide

/-- `readText` on the writer's output: the header line is read back, the value line splits into the printed tokens;
    what remains are the parse of each token and the count. -/
theorem readText_written (shape bits : List Nat) (p : Nat) (hne : shape ≠ []) (hb : ∀ v ∈ shape, v < 2 ^ 64) :
    readText (asciiBytes (writeText shape bits p)) =
      match (bits.map (fun b => fmtFixed b p)).mapM parseF64 with
      | none => .error .invalid
      | some vals => if checkedSize shape = some vals.length then .ok (shape, vals) else .error .invalid := by
  obtain ⟨line, hw, htok⟩ := writeText_tokens shape bits p
  unfold readText
  rw [allAscii_asciiBytes _ (writeText_ascii shape bits p)]
  simp only [Bool.not_true, Bool.false_eq_true, if_false, bytesToChars_asciiBytes]
  have hsplit := takeWhile_append_stop (fun c => decide (c ≠ '\n')) (textHeader shape) ('\n' :: (line ++ ['\n']))
    (fun x hx => decide_eq_true (textHeader_ascii_ne_nl shape x hx).2) (by simp)
  have hw' : writeText shape bits p = textHeader shape ++ '\n' :: (line ++ ['\n']) := by
    rw [hw]; simp
  rw [hw', hsplit.1, hsplit.2, parseTextHeader_textHeader shape hne hb]
  simp only [List.drop_one, List.tail_cons, htok]
  rfl  -- prints as `A = A`: the `match` of the statement is an auxiliary of its own, not the model's

theorem splitWs_dropWhile_nl (chars : List Char) :
    splitWs ((chars.dropWhile (· ≠ '\n')).drop 1) = splitWs (chars.dropWhile (· ≠ '\n')) := by
  cases hd : chars.dropWhile (· ≠ '\n') with
  | nil => rfl
  | cons c r =>
    have hc : c = '\n' := by
      have h := List.head?_dropWhile_not (p := fun c => decide (c ≠ '\n')) (l := chars)
      rw [hd] at h
      simpa using h
    subst hc
    rw [List.drop_one, List.tail_cons, splitWs_ws_cons _ _ (by decide)]

/-- what `readText` accepts, exactly: ASCII, a header line that parses, tokens that all parse, as many as declared. -/
theorem readText_ok_iff (bytes shape vals : List Nat) :
    readText bytes = .ok (shape, vals) ↔
      allAscii bytes = true ∧
      parseTextHeader ((bytesToChars bytes).takeWhile (· ≠ '\n')) = some shape ∧
      (splitWs (((bytesToChars bytes).dropWhile (· ≠ '\n')).drop 1)).mapM parseF64 = some vals ∧
      checkedSize shape = some vals.length := by
  constructor
  · intro h
    unfold readText at h
    simp only at h
    split at h; · cases h
    rename_i ha
    split at h; · cases h
    rename_i sh hsh
    split at h; · cases h
    rename_i vs hvs
    split at h
    · rename_i hcs
      simp only [Except.ok.injEq, Prod.mk.injEq] at h
      obtain ⟨rfl, rfl⟩ := h
      exact ⟨by simpa using ha, hsh, hvs, hcs⟩
    · cases h
  · rintro ⟨h1, h2, h3, h4⟩
    unfold readText
    simp only [h1, h2, h3, h4, Bool.not_true, Bool.false_eq_true, if_false, if_true]

theorem readText_written_reject (shape bits : List Nat) (p : Nat) (hne : shape ≠ []) (hb : ∀ v ∈ shape, v < 2 ^ 64)
    (hsz : checkedSize shape ≠ some bits.length) :
    ∃ e, readText (asciiBytes (writeText shape bits p)) = .error e := by
  rw [readText_written shape bits p hne hb]
  split
  · exact ⟨_, rfl⟩
  · rename_i vals hv
    have hl := mapM_option_length _ _ _ hv
    rw [List.length_map] at hl
    rw [hl, if_neg hsz]
    exact ⟨_, rfl⟩

theorem detectFormat_text (t : List Char) : detectFormat (asciiBytes ("#SHAPE=<".toList ++ t)) = some .text := by
  simp [detectFormat, npyMagic, textStart, asciiBytes]

end Sfs
