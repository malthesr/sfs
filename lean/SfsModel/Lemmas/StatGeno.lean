/-
From genotypes to the spectrum: first the chromosome level behind pi and pi_xy, then the spectrum of a list of sites
under the weighted sums of `StatSum` (`wsum_spectrum`).
-/
import SfsModel.Lemmas.StatSum

namespace Sfs
open Sfs.Spec

theorem altCount_add_ref (c : List Bool) : altCount c + (c.filter (!·)).length = c.length := by
  induction c with
  | nil => rfl
  | cons a c ih =>
    cases a
    · show altCount c + ((c.filter (!·)).length + 1) = c.length + 1
      omega
    · show altCount c + 1 + (c.filter (!·)).length = c.length + 1
      omega

theorem length_filter_bne_false (d : List Bool) : (d.filter (· != false)).length = altCount d :=
  congrArg List.length (List.filter_congr fun b _ => by cases b <;> rfl)

theorem length_filter_bne_true (d : List Bool) : (d.filter (· != true)).length = (d.filter (!·)).length :=
  congrArg List.length (List.filter_congr fun b _ => by cases b <;> rfl)

theorem diffPairs_eq_alt_mul_ref (c : List Bool) : diffPairs c = altCount c * (c.filter (!·)).length := by
  induction c with
  | nil => rfl
  | cons a c ih =>
    rw [diffPairs, ih]
    cases a
    · rw [length_filter_bne_false]
      show _ = altCount c * ((c.filter (!·)).length + 1)
      rw [Nat.mul_succ, Nat.add_comm]
    · rw [length_filter_bne_true]
      show _ = (altCount c + 1) * (c.filter (!·)).length
      rw [Nat.succ_mul, Nat.add_comm]

theorem diffBetween_eq_alt_mul_ref (c d : List Bool) :
    diffBetween c d = altCount c * (d.filter (!·)).length + altCount d * (c.filter (!·)).length := by
  induction c with
  | nil => simp [diffBetween, altCount]
  | cons a c ih =>
    unfold diffBetween at ih ⊢
    rw [List.map_cons, List.sum_cons, ih]
    cases a
    · rw [length_filter_bne_false]
      show _ = altCount c * _ + altCount d * ((c.filter (!·)).length + 1)
      rw [Nat.mul_succ]
      omega
    · rw [length_filter_bne_true]
      show _ = (altCount c + 1) * _ + altCount d * (c.filter (!·)).length
      rw [Nat.succ_mul]
      omega

end Sfs

namespace Sfs.C06
open Sfs Sfs.Spec

variable {α : Type} [Field α]

/-- `x` is the spectrum of the sites `ks` over `shape`: one cell per in-bounds index, holding the number of sites with
    that vector of per-population ALT counts. -/
def IsSpectrumOf (shape : List Nat) (ks : List (List Nat)) (x : List α) : Prop :=
  x.length = size shape ∧ (∀ k ∈ ks, InB shape k) ∧ ∀ k, InB shape k → x.getD (flat shape k) 0 = ((ks.count k : Nat) : α)

/-- `ns` chromosomes per population ↔ axis lengths `ns + 1`. -/
def shapeOf (ns : List Nat) : List Nat := ns.map (· + 1)

theorem IsSpectrumOf.length {shape : List Nat} {ks : List (List Nat)} {x : List α} (h : IsSpectrumOf shape ks x) :
    x.length = size shape := h.1

theorem IsSpectrumOf.inB {shape : List Nat} {ks : List (List Nat)} {x : List α} (h : IsSpectrumOf shape ks x)
    {k : List Nat} (hk : k ∈ ks) : InB shape k := h.2.1 k hk

theorem IsSpectrumOf.getD_flat {shape : List Nat} {ks : List (List Nat)} {x : List α} (h : IsSpectrumOf shape ks x)
    {k : List Nat} (hk : InB shape k) : x.getD (flat shape k) 0 = ((ks.count k : Nat) : α) := h.2.2 k hk

end Sfs.C06

namespace Sfs
open Finset Sfs.Spec Sfs.C06

section
variable {α : Type} [Field α]

theorem sg_sum_map_zero {β} (l : List β) : (l.map (fun _ => (0 : α))).sum = 0 :=
  List.sum_map_zero

/-- The key lemma: on the spectrum of the sites `ks`, a weighted sum over the cells is the sum of the weight over the
    sites (induction on the sites: one more site adds one to the cell at its position). -/
theorem wsum_spectrum (shape : List Nat) (ks : List (List Nat)) (x : List α) (h : IsSpectrumOf shape ks x)
    (W : Nat → α) : sf_wsum (size shape) x W = (ks.map (fun k => W (flat shape k))).sum := by
  have hx : ∀ i ∈ range (size shape), x.getD i 0 * W i = ((ks.count (unflat shape i) : Nat) : α) * W i := by
    intro i hi
    have hi' := mem_range.mp hi
    rw [← h.getD_flat (unflat_inB _ _ hi'), flat_unflat _ _ hi']
  rw [sf_wsum, Finset.sum_congr rfl hx]
  have hin : ∀ k ∈ ks, InB shape k := fun _ hk => h.inB hk
  -- `h` speaks of `ks`: the induction on `ks` would carry it along
  clear hx h
  induction ks with
  | nil => simp
  | cons k ks ih =>
    have hk : InB shape k := hin k List.mem_cons_self
    have hind : W (flat shape k) = ∑ i ∈ range (size shape), if i = flat shape k then W i else 0 := by
      rw [Finset.sum_ite_eq', if_pos (mem_range.mpr (flat_lt _ _ hk))]
    rw [List.map_cons, List.sum_cons, ← ih (fun k' hk' => hin k' (List.mem_cons_of_mem _ hk')), hind,
      ← Finset.sum_add_distrib]
    refine Finset.sum_congr rfl fun i hi => ?_
    rw [List.count_cons, Nat.cast_add, add_mul, add_comm]
    congr 1
    by_cases hcell : i = flat shape k
    · rw [hcell, unflat_flat _ _ hk, beq_self_eq_true, if_pos rfl, if_pos rfl, Nat.cast_one, one_mul]
    · have : (k == unflat shape i) = false :=
        beq_false_of_ne fun e' => hcell (by rw [e', flat_unflat _ _ (mem_range.mp hi)])
      rw [this, if_neg hcell, if_neg (by simp), Nat.cast_zero, zero_mul]

theorem sumList_spectrum (shape : List Nat) (ks : List (List Nat)) (x : List α) (h : IsSpectrumOf shape ks x) :
    sumList x = gSum ks := by
  rw [sumList_eq_wsum, h.length, wsum_spectrum _ ks x h, gSum, sum_map_one]

/-- all-REF is the first cell and all-ALT the last -/
theorem polymorphic_eq_interior (ns k : List Nat) (hk : InB (shapeOf ns) k) :
    polymorphic ns k = decide (0 < flat (shapeOf ns) k ∧ flat (shapeOf ns) k + 1 < size (shapeOf ns)) := by
  have t : (shapeOf ns).map (· - 1) = ns := by
    rw [shapeOf, List.map_map]
    exact (List.map_congr_left fun n _ => Nat.add_sub_cancel n 1).trans (List.map_id _)
  rw [Bool.eq_iff_iff, decide_eq_true_iff, interior_flat_iff _ _ hk, t, polymorphic, Bool.and_eq_true, bne_iff_ne,
    bne_iff_ne, shapeOf, List.map_map]
  rfl

theorem wsum_int_spectrum (ns : List Nat) (ks : List (List Nat)) (x : List α) (h : IsSpectrumOf (shapeOf ns) ks x)
    (w : Nat → α) :
    sf_wsum (size (shapeOf ns)) x (onInterior (size (shapeOf ns)) w)
      = ((ks.filter (polymorphic ns)).map (fun k => w (flat (shapeOf ns) k))).sum := by
  rw [wsum_spectrum _ ks x h, sum_map_filter]
  refine congrArg List.sum (List.map_congr_left fun k hk => ?_)
  simp only [polymorphic_eq_interior ns k (h.inB hk), onInterior, decide_eq_true_iff]

/-- the frequencies of the cell of a site are the sample allele frequencies of the site -/
theorem nth_freqs_flat (ns k : List Nat) (hk : InB (shapeOf ns) k) (j : Nat) :
    nth (freqs (α := α) (shapeOf ns) (flat (shapeOf ns) k)) j = pfreq ns k j := by
  rw [freqs_eq _ _ (flat_lt _ _ hk), unflat_flat _ _ hk, nth_freqsOf, shapeOf, getD_succ_pred, pfreq]

/-- a `freqSum` whose weight reads the frequencies through `nth` is, on the normalised spectrum, the site average of
    the weight at the sample allele frequencies (f2, f3, f4) -/
theorem freqSum_spectrum (ns : List Nat) (ks : List (List Nat)) (x : List α) (h : IsSpectrumOf (shapeOf ns) ks x)
    (g : (Nat → α) → α) :
    freqSum (fun f => g (nth f)) (normalized ⟨x, shapeOf ns⟩) = sumOver ks (fun k => g (pfreq ns k)) / gSum ks := by
  rw [freqSum_normalized, sumList_spectrum _ ks x h, h.length, wsum_spectrum _ ks x h, sumOver, sumList_eq_sum]
  refine congrArg (fun l : List α => l.sum / _) (List.map_congr_left fun k hk => ?_)
  exact congrArg g (funext (nth_freqs_flat ns k (h.inB hk)))

/-- the code divides by `len - 2` in the scalar, the definition by `n - 1` in ℕ; `len = n + 1`, `1 ≤ n` -/
theorem cast_succ_sub_two (n : Nat) (h : 1 ≤ n) : (((n + 1 : Nat) : Nat) : α) - ((2 : Nat) : α) = ((n - 1 : Nat) : α) := by
  rw [Nat.cast_sub h]
  push_cast
  ring

/-- on a spectrum of `ns` chromosomes the weight of a cell in the numerator of Fst is Hudson's per-site numerator
    (for the denominator this holds by definition) -/
theorem fstNum_eq_hudsonNum (ns : List Nat) (h2 : ns.length = 2) (hns : ∀ n ∈ ns, 0 < n) (k : List Nat) :
    fstNum (α := α) (shapeOf ns) (pfreq ns k 0) (pfreq ns k 1) = hudsonNum ns k := by
  match ns, h2 with
  | [a, b], _ =>
    simp only [fstNum, shapeOf, List.map_cons, List.getD_cons_zero, List.getD_cons_succ,
      cast_succ_sub_two a (hns a (by simp)), cast_succ_sub_two b (hns b (by simp))]
    rfl

theorem at33_spectrum (ks : List (List Nat)) (x : List α) (h : IsSpectrumOf [3, 3] ks x) (r c : Nat) (hr : r < 3)
    (hc : c < 3) : at33 ⟨x, [3, 3]⟩ r c = pairCount ks r c := by
  have := h.getD_flat (k := [r, c]) ⟨hr, hc, trivial⟩
  rw [flat_pair, Nat.mul_comm] at this
  rw [at33, nth, this, pairCount, List.count_eq_countP, List.countP_eq_length_filter]

end

end Sfs
