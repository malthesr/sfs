/-
The npy and text readers through a chunk-scheduled, possibly failing reader against the same readers on the whole byte
string (`IoRel`), and the npy and text writers through a short-writing, possibly failing writer (`Wr.Appends`): the instances of
the two contracts of `Lemmas/IoModel.lean`.
-/
import SfsModel.Lemmas.IoModel
import SfsModel.Lemmas.Bytes
import SfsModel.Lemmas.NpyFrame
import SfsModel.Model.Stdout
namespace Sfs

/-- `x` (through a reader that fails iff `b`) against `y` (on the whole byte string): equal without failure; with a
    failure, the I/O error or the same error as on the whole string. -/
def IoRel {α} (b : Bool) (x y : Except IoErr α) : Prop :=
  (b = false ∧ x = y) ∨ (b = true ∧ (x = .error .io ∨ ∃ e, x = .error e ∧ y = .error e))

theorem IoRel.err {α} (b : Bool) (e : IoErr) : IoRel (α := α) b (.error e) (.error e) := by
  cases b
  · exact Or.inl ⟨rfl, rfl⟩
  · exact Or.inr ⟨rfl, Or.inr ⟨e, rfl, rfl⟩⟩

theorem IoRel.io {α} (y : Except IoErr α) : IoRel true (.error .io) y := Or.inr ⟨rfl, Or.inl rfl⟩

theorem IoRel.eq {α} {x y : Except IoErr α} (h : IoRel false x y) : x = y := by
  rcases h with ⟨-, he⟩ | ⟨hb, -⟩
  · exact he
  · cases hb

theorem IoRel.surfaces {α} {x y : Except IoErr α} (h : IoRel true x y) : ∃ e, x = .error e := by
  rcases h with ⟨hb, -⟩ | ⟨-, he | ⟨e, he, -⟩⟩
  · cases hb
  · exact ⟨_, he⟩
  · exact ⟨e, he⟩

theorem IoRel.is_io {α} {x y : Except IoErr α} (h : IoRel true x y) {s} (hy : y = .ok s) : x = .error .io := by
  rcases h with ⟨hb, -⟩ | ⟨-, he | ⟨e, -, he⟩⟩
  · cases hb
  · exact he
  · rw [hy] at he; cases he

/-- One `read_exact(n)` of a walk along the reader against the same walk on the whole string: with fewer than `n` bytes
    left both stop (EOF, or the failure first); otherwise it is enough to relate how the two go on, the reader `n` bytes
    on. -/
theorem Rd.readExact_rel {α} (r : Rd) (hI : Rd.Inv r) (n : Nat) (k : List Nat → Rd → Except IoErr α) (y : Except IoErr α)
    (h : ∀ r', Rd.After r n r' → IoRel r'.failAt.isSome (k (r.data.take n) r') y) :
    IoRel r.failAt.isSome (match r.readExact n n with | .error e => .error e | .ok (b, r') => k b r')
      (if r.data.length < n then .error .eof else y) := by
  obtain ⟨h1, h2⟩ := Rd.readExact_takes n r hI n (Nat.le_refl _)
  by_cases hl : r.data.length < n
  · rw [if_pos hl, h2 hl]
    cases r.failAt with
    | none => exact IoRel.err _ _
    | some k => exact IoRel.io _
  · rw [if_neg hl]
    rcases h1 (by omega) with ⟨k, hk, -, he⟩ | ⟨r', he, hA⟩
    · rw [he, hk]; exact IoRel.io _
    · rw [he, ← hA.isSome_failAt]; exact h r' hA

/-- the npy value loop: that of `readValues` on the remaining bytes; on a failing reader the failure (the loop only stops
    at the end of the data). -/
theorem readValuesRd_eq (en : Endian) (t : NpyTy) (fuel : Nat) (r : Rd) (h : Rd.Inv r) (hfuel : r.data.length < fuel) :
    readValuesRd en t fuel r = if r.failAt = none then readValues en t fuel r.data else .error .io := by
  induction fuel generalizing r with
  | zero => omega
  | succ fuel ih =>
    unfold readValuesRd readValues
    rcases r.fillBuf_spec h with ⟨hf, he⟩ | ⟨hf, hd, he⟩ | ⟨a, r', he, hF⟩
    · rw [he, hf]; rfl
    · rw [he, hf, hd]; rfl
    · rw [he]
      have hle := hF.le
      have hpos := hF.pos
      have hne : r.data.isEmpty = false := List.isEmpty_eq_false_iff.2 (List.ne_nil_of_length_pos (by omega))
      simp only [hF.isEmpty_take, hne, Bool.false_eq_true, if_false]
      -- `fill_buf` does not move the reader: the `read_exact` behind it is the one on `r`
      obtain ⟨hread, hshort⟩ := Rd.readExact_takes t.width r' hF.inv t.width (Nat.le_refl _)
      rw [hF.data] at hread
      rw [hF.data, hF.failAt] at hshort
      by_cases hw : r.data.length < t.width
      · rw [if_pos hw, hshort hw]
        cases r.failAt <;> rfl
      · rw [if_neg hw]
        have hw1 := t.width_pos
        rcases hread (by omega) with ⟨k, hk, hlt, he2⟩ | ⟨r'', he2, hA⟩
        · rw [he2, ← hF.failAt, hk]; rfl
        · rw [he2]
          dsimp only
          -- the induction hypothesis on `r''`, then `r''` in terms of `r'` (`hA`) and `r'` in terms of `r` (`hF`)
          rw [ih r'' hA.inv (by rw [hA.data, hF.data, List.length_drop]; omega), hA.data, hA.failAt, hF.data, hF.failAt]
          cases r.failAt with
          | none => dsimp only [Option.map]; cases readValues en t fuel (List.drop t.width r.data) <;> rfl
          | some k => rfl

theorem readNpyRd_rel (r : Rd) (hI : Rd.Inv r) : IoRel r.failAt.isSome (readNpyRd r) (readNpy r.data) := by
  rw [readNpy_eq]
  unfold readNpyRd
  refine r.readExact_rel hI 6 _ _ fun r1 hA1 => ?_
  by_cases hm : List.take 6 r.data ≠ npyMagic
  · rw [if_pos hm, if_pos hm]; exact IoRel.err _ _
  rw [if_neg hm, if_neg hm, ← hA1.data]
  refine r1.readExact_rel hA1.inv 2 _ _ fun r2 hA2 => ?_
  have hv : (List.take 2 r1.data).getD 0 0 = r1.data.getD 0 0 := by
    cases r1.data <;> rfl
  rw [hv, ← hA2.data]
  dsimp only
  -- `readNpyRd` spells the version table inline: on its side (`IoRel`'s second argument) it is folded into `npyLenWidth`,
  -- which `readNpy_eq` has on the other; then one case split serves both
  conv => arg 2; arg 2; change npyLenWidth _
  cases npyLenWidth (r1.data.getD 0 0) with
  | none => exact IoRel.err _ _
  | some w =>
    refine r2.readExact_rel hA2.inv w _ _ fun r3 hA3 => ?_
    rw [← hA3.data]
    refine r3.readExact_rel hA3.inv _ _ _ fun r4 hA4 => ?_
    rw [← hA4.data]
    generalize List.take (ofLeBytes (List.take w r2.data)) r3.data = dictBytes
    unfold npyAfterHeader
    by_cases ha : (!allAscii dictBytes) = true
    · rw [if_pos ha, if_pos ha]; exact IoRel.err _ _
    rw [if_neg ha, if_neg ha]
    cases parseNpyDict (bytesToChars dictBytes) with
    | none => exact IoRel.err _ _
    | some d =>
      dsimp only
      by_cases hfo : d.fortran = true
      · rw [if_pos hfo, if_pos hfo]; exact IoRel.err _ _
      rw [if_neg hfo, if_neg hfo, readValuesRd_eq _ _ _ _ hA4.inv (Nat.lt_succ_self _)]
      cases r4.failAt with
      | none => exact .inl ⟨rfl, by cases readValues d.endian d.ty (r4.data.length + 1) r4.data <;> rfl⟩
      | some k => exact IoRel.io _

theorem bytesToChars_line (l : List Nat) :
    (bytesToChars (l.take ((l.takeWhile (· ≠ 10)).length + 1))).takeWhile (· ≠ '\n') =
      (bytesToChars l).takeWhile (· ≠ '\n') := by
  unfold bytesToChars
  rw [List.takeWhile_map, List.takeWhile_map, lf_comp_ofNat, ← List.take_takeWhile, List.take_of_length_le (Nat.le_succ _)]

theorem bytesToChars_rest (l : List Nat) :
    bytesToChars (l.drop ((l.takeWhile (· ≠ 10)).length + 1)) = ((bytesToChars l).dropWhile (· ≠ '\n')).drop 1 := by
  unfold bytesToChars
  rw [List.dropWhile_map, lf_comp_ofNat, ← List.map_drop, ← drop_length_takeWhile, List.drop_drop]

/-- `readText` (ASCII check on the whole input first) in the order of `read_scs`: the header line (the first `n` bytes)
    checked and parsed first, then the rest checked and parsed. -/
theorem readText_split (l : List Nat) :
    readText l =
      (if !allAscii (l.take ((l.takeWhile (· ≠ 10)).length + 1)) then .error .invalid
       else match parseTextHeader ((bytesToChars (l.take ((l.takeWhile (· ≠ 10)).length + 1))).takeWhile (· ≠ '\n')) with
        | none => .error .invalid
        | some shape =>
          if !allAscii (l.drop ((l.takeWhile (· ≠ 10)).length + 1)) then .error .invalid
          else match (splitWs (bytesToChars (l.drop ((l.takeWhile (· ≠ 10)).length + 1)))).mapM parseF64 with
            | none => .error .invalid
            | some vals => if checkedSize shape = some vals.length then .ok (shape, vals) else .error .invalid) := by
  have hall := allAscii_append (l.take ((l.takeWhile (· ≠ 10)).length + 1)) (l.drop ((l.takeWhile (· ≠ 10)).length + 1))
  rw [List.take_append_drop] at hall
  unfold readText
  rw [bytesToChars_line, bytesToChars_rest, hall]
  cases allAscii (l.take ((l.takeWhile (· ≠ 10)).length + 1))
  · rfl
  · cases allAscii (l.drop ((l.takeWhile (· ≠ 10)).length + 1))
    · cases parseTextHeader ((bytesToChars l).takeWhile (· ≠ '\n')) <;> rfl
    · rfl

theorem readTextRd_rel (r : Rd) (hI : Rd.Inv r) : IoRel r.failAt.isSome (readTextRd r) (readText r.data) := by
  rw [readText_split]
  unfold readTextRd
  rcases Rd.readLine_takes (r.data.length + 1) r hI (Nat.lt_succ_self _) with ⟨k, hk, -, he⟩ | ⟨r1, he, hA⟩
  · rw [he, hk]; exact IoRel.io _  -- the reader fails before the line feed is seen
  rw [he]; dsimp only
  generalize (r.data.takeWhile (· ≠ 10)).length + 1 = n at hA ⊢
  by_cases hL : (!allAscii (r.data.take n)) = true
  · rw [if_pos hL, if_pos hL]; exact IoRel.err _ _
  rw [if_neg hL, if_neg hL]
  cases parseTextHeader (List.takeWhile (· ≠ '\n') (bytesToChars (r.data.take n))) with
  | none => exact IoRel.err _ _
  | some shape =>
    rcases hA.readToEnd with ⟨hf, r2, he2⟩ | ⟨⟨k, hf⟩, he2⟩
    · rw [he2, hf]; exact .inl ⟨rfl, rfl⟩  -- no failure: the rest is read
    · rw [he2, hf]; exact IoRel.io _  -- a failure point: `read_to_end` has to see the end

theorem Wr.writePieces_append (ps qs : List (List Nat)) (w : Wr) :
    w.writePieces (ps ++ qs) = (match w.writePieces ps with
      | .error e => .error e
      | .ok w' => w'.writePieces qs) := by
  induction ps generalizing w with
  | nil => rfl
  | cons p ps ih =>
    simp only [List.cons_append, Wr.writePieces]
    cases w.writeAllOf p with
    | error e => rfl
    | ok w' => exact ih w'

theorem writeNpy_pieces (shape bits : List Nat) :
    writeNpy shape bits = match npyPieces shape bits with | some ps => .ok ps.flatten | none => .error .invalid := by
  -- rw, not unfold: a defeq hint would make the kernel run `npyDict` inside the length test
  rw [writeNpy, npyHeader, npyPieces]
  by_cases h : (npyDict shape).length + (64 - (6 + 2 + 2 + (npyDict shape).length) % 64) < 65536
  · simp only [if_pos h, List.flatten_cons, List.append_assoc, List.cons_append, List.nil_append]
  · simp only [if_neg h]

theorem writeNpyWr_pieces (shape bits : List Nat) (w : Wr) :
    writeNpyWr shape bits w = match npyPieces shape bits with
      | some ps => w.writePieces ps
      | none => match w.writePieces [npyMagic, [1, 0]] with
        | .error e => .error e
        | .ok _ => .error .invalid := by
  rw [writeNpyWr, npyPieces]
  have happ := fun qs => Wr.writePieces_append [npyMagic, [1, 0]] qs w
  by_cases h : (npyDict shape).length + (64 - (6 + 2 + 2 + (npyDict shape).length) % 64) < 65536
  · simp only [if_pos h, List.cons_append, List.nil_append] at happ ⊢
    conv => rhs; rw [happ]
    cases w.writePieces [npyMagic, [1, 0]] <;> rfl
  · simp only [if_neg h]
    cases w.writePieces [npyMagic, [1, 0]] <;> rfl

theorem writeTextWr_pieces (shape bits : List Nat) (p : Nat) (w : Wr) :
    writeTextWr shape bits p w = w.writePieces (textPieces shape bits p) := by
  unfold writeTextWr textPieces
  cases bits <;> rfl

theorem writeText_pieces (shape bits : List Nat) (p : Nat) :
    asciiBytes (writeText shape bits p) = (textPieces shape bits p).flatten := by
  unfold writeText textPieces
  cases bits <;> simp [asciiBytes]

/-- When the header does not fit, magic and version have been written by then: hence `w.failAt = none`. Two implications,
    not a `match` on `writeNpy shape bits`: the elaborator would evaluate it, through the string literal of `npyDict`. -/
theorem writeNpyWr_appends (shape bits : List Nat) (w : Wr) :
    (∀ bytes, writeNpy shape bits = .ok bytes → Wr.Appends w bytes (writeNpyWr shape bits w)) ∧
    (∀ e, writeNpy shape bits = .error e → w.failAt = none → writeNpyWr shape bits w = .error e) := by
  rw [writeNpy_pieces, writeNpyWr_pieces]
  cases npyPieces shape bits with
  | some ps => exact ⟨fun bytes h => by cases h; exact Wr.writePieces_appends ps w, nofun⟩
  | none =>
    refine ⟨nofun, fun e h hf => ?_⟩
    cases h
    obtain ⟨w', he, -⟩ := (Wr.writePieces_appends [npyMagic, [1, 0]] w).ok hf
    rw [he]

theorem writeTextWr_appends (shape bits : List Nat) (p : Nat) (w : Wr) :
    Wr.Appends w (asciiBytes (writeText shape bits p)) (writeTextWr shape bits p w) := by
  rw [writeTextWr_pieces, writeText_pieces]
  exact Wr.writePieces_appends _ w

end Sfs
