/-
The runner as one equation (`createRun_eq`: the error of the first stopping record, else the sum of the records'
contributions). The spectrum is kept in the form `(List.range n).map g` throughout, as `sumContrib` and the counted
branches of `contribOfSite` define it.
-/
import SfsModel.Lemmas.Site
import SfsModel.Lemmas.ProjectIter
namespace Sfs
open Sfs.Spec

section field
variable {α : Type} [Field α]

theorem addOne_range (shape : List Nat) (g : Nat → α) (c : List Nat) :
    addOne shape ((List.range (size shape)).map g) c
      = (List.range (size shape)).map fun f => g f + if flat shape c = f ∧ InB shape c then 1 else 0 := by
  rw [addOne, flatIndex_eq]
  by_cases hin : InB shape c
  · simp only [hin, if_true, and_true, set_range_map]
    apply List.map_congr_left
    intro f hf
    split
    · next e => rw [getD_range_map, e, if_pos (List.mem_range.mp hf)]
    · rw [add_zero]
  · simp only [hin, if_false, and_false, add_zero]

theorem contribOfSite_length (cfg : SiteCfg) (o : Option Site) :
    (contribOfSite (α := α) cfg o).length = size cfg.outShape := by
  unfold contribOfSite
  split <;> simp

theorem contrib_length (cfg : SiteCfg) (gts : List GtRes) : (contrib (α := α) cfg gts).length = size cfg.outShape :=
  contribOfSite_length cfg _

theorem recContrib_length (cfg : SiteCfg) (r : Rec) : (recContrib (α := α) cfg r).length = size cfg.outShape := by
  cases r with
  | gts c p l => exact contrib_length cfg l
  | corrupt c p => simp [recContrib]

theorem contribOfSite_standard_getD (cfg : SiteCfg) (c : List Nat) (f : Nat) :
    (contribOfSite (α := α) cfg (some (.standard c))).getD f 0
      = if flat cfg.outShape c = f ∧ InB cfg.outShape c then 1 else 0 := by
  simp only [contribOfSite]
  rw [getD_range_map]
  by_cases hf : f < size cfg.outShape
  · rw [if_pos hf]
  · rw [if_neg hf, if_neg]
    rintro ⟨e, hin⟩
    have := flat_lt _ _ hin
    omega

theorem contribOfSite_insufficient (cfg : SiteCfg) :
    contribOfSite (α := α) cfg (some .insufficient) = List.replicate (size cfg.outShape) 0 := rfl

theorem contribOfSite_none (cfg : SiteCfg) :
    contribOfSite (α := α) cfg none = List.replicate (size cfg.outShape) 0 := rfl

theorem sumContrib_length (cfg : SiteCfg) (recs : List Rec) :
    (sumContrib (α := α) cfg recs).length = size cfg.outShape := by
  simp [sumContrib]

theorem sumContrib_getD (cfg : SiteCfg) (recs : List Rec) (f : Nat) :
    (sumContrib (α := α) cfg recs).getD f 0 = (recs.map (fun r => (recContrib (α := α) cfg r).getD f 0)).sum := by
  unfold sumContrib
  rw [getD_range_map]
  by_cases hf : f < size cfg.outShape
  · rw [if_pos hf]; rfl
  · rw [if_neg hf]
    symm
    apply List.sum_eq_zero
    intro x hx
    obtain ⟨r, _, rfl⟩ := List.mem_map.mp hx
    rw [List.getD_eq_getElem?_getD, List.getElem?_eq_none (by rw [recContrib_length]; omega)]
    rfl

theorem zipWith_add_length (a b : List α) (h : a.length = b.length) :
    (List.zipWith (· + ·) a b).length = a.length := by
  simp [h]

theorem sumContrib_append (cfg : SiteCfg) (a b : List Rec) :
    sumContrib (α := α) cfg (a ++ b) = List.zipWith (· + ·) (sumContrib cfg a) (sumContrib cfg b) := by
  simp only [sumContrib, List.zipWith_map, List.zipWith_self, List.map_append]
  apply List.map_congr_left
  intro f _
  exact List.sum_append

theorem sumContrib_perm (cfg : SiteCfg) (a b : List Rec) (hp : a.Perm b) :
    sumContrib (α := α) cfg a = sumContrib cfg b := by
  unfold sumContrib
  apply List.map_congr_left
  intro f _
  exact (hp.map _).sum_eq

/-- Mass and projection are lifted from one record by this. -/
theorem sumContrib_weighted (cfg : SiteCfg) (n : Nat) (w : Nat → α) : ∀ recs : List Rec,
    ∑ f ∈ Finset.range n, (sumContrib (α := α) cfg recs).getD f 0 * w f
      = (recs.map fun r => ∑ f ∈ Finset.range n, (recContrib (α := α) cfg r).getD f 0 * w f).sum
  | [] => by simp only [sumContrib_getD, List.map_nil, List.sum_nil, zero_mul, Finset.sum_const_zero]
  | r :: rs => by
    rw [List.map_cons, List.sum_cons, ← sumContrib_weighted cfg n w rs, ← Finset.sum_add_distrib]
    apply Finset.sum_congr rfl
    intro f _
    rw [sumContrib_getD, sumContrib_getD, List.map_cons, List.sum_cons, add_mul]

end field

namespace C10

/-- The first record, in input order, at which a run must stop: a corrupt record or a ploidy error in a selected
    column always; in strict mode also the first site that would be skipped. In namespace `C10` because the
    statements of C10 (`run_error_iff`, `strict_first`) name it. -/
def firstStop (cfg : SiteCfg) (strict : Bool) : List Rec → Option RunErr
  | [] => none
  | .corrupt c p :: _ => some (.genotypeError c p)
  | .gts c p l :: rs =>
    match siteSpec cfg l with
    | none => some (.genotypeError c p)
    | some .insufficient => if strict then some (.strict c p) else firstStop cfg strict rs
    | some _ => firstStop cfg strict rs

end C10
open C10

theorem firstStop_cons (cfg : SiteCfg) (strict : Bool) (r : Rec) (rs : List Rec) :
    firstStop cfg strict (r :: rs) = (firstStop cfg strict [r]).or (firstStop cfg strict rs) := by
  cases r with
  | corrupt c p => rfl
  | gts c p l =>
    simp only [firstStop]
    cases siteSpec cfg l with
    | none => rfl
    | some s => cases s <;> cases strict <;> rfl

theorem firstStop_singleton (cfg : SiteCfg) (strict : Bool) (r : Rec) :
    firstStop cfg strict [r] = none ↔ recOk cfg r = true ∧ (strict = true → recSkipped cfg r = false) := by
  cases r with
  | corrupt c p => simp [firstStop, recOk]
  | gts c p l =>
    simp only [firstStop, recOk, recSkipped]
    cases siteSpec cfg l with
    | none => simp
    | some s => cases s <;> cases strict <;> simp

theorem firstStop_eq_none_iff (cfg : SiteCfg) (strict : Bool) : ∀ recs : List Rec,
    firstStop cfg strict recs = none ↔
      (∀ r ∈ recs, recOk cfg r = true) ∧ (strict = true → ∀ r ∈ recs, recSkipped cfg r = false)
  | [] => by simp [firstStop]
  | r :: rs => by
    rw [firstStop_cons, Option.or_eq_none_iff, firstStop_singleton, firstStop_eq_none_iff cfg strict rs,
      List.forall_mem_cons, List.forall_mem_cons, and_and_and_comm, ← imp_and]

section field
variable {α : Type} [Field α]

/-- `hpt` is `CfgOk.projectTo_length`. -/
theorem runStep_range (cfg : SiteCfg) (hpt : ∀ pt, cfg.projectTo = some pt → pt.length = numPops cfg.map)
    (strict : Bool) (g : Nat → α) (n k : Nat) (site : SiteSt)
    (h1 : site.counts.length = numPops cfg.map) (h2 : site.totals.length = numPops cfg.map)
    (c : String) (p : Nat) (l : List GtRes) :
    runStep cfg strict ⟨(List.range (size cfg.outShape)).map g, n, k, site⟩ (.gts c p l) =
      match firstStop cfg strict [.gts c p l] with
      | some e => .error e
      | none => .ok ⟨(List.range (size cfg.outShape)).map fun f => g f + (recContrib cfg (.gts c p l)).getD f 0,
                    n + 1, k + (if recSkipped cfg (.gts c p l) then 1 else 0), (readSite cfg site l).2⟩ := by
  -- as a pair: `runStep` matches on `readSite …`
  have hpair : readSite cfg site l = (siteSpec cfg l, (readSite cfg site l).2) :=
    Prod.ext (readSite_eq_spec cfg hpt site h1 h2 l) rfl
  rw [runStep, hpair]
  cases hs : siteSpec cfg l with
  | none => simp only [firstStop, hs]
  | some s =>
    simp only [firstStop, recContrib, contrib, recSkipped, hs, Option.some.injEq]
    cases s with
    | standard a =>
      -- the tail from `reduceCtorEq` on evaluates `recSkipped` to `false`: the counter is `k + 0` (same tail below)
      simp only [addOne_range, contribOfSite, map_add_getD, reduceCtorEq, decide_false, Bool.false_eq_true, if_false,
        Nat.add_zero]
    | projected t a =>
      -- only a projection target yields such a site
      obtain ⟨e, _⟩ | ⟨pt, _, hq, _⟩ | e := siteSpec_some_inv cfg l _ hs
      · cases e
      · -- the iterator's values and the specification's entries are the same range form
        simp only [projectIter_eq, SiteCfg.outShape, hq, Option.getD_some, addProjected_range, contribOfSite,
          map_add_getD, mul_one, reduceCtorEq, decide_false, Bool.false_eq_true, if_false, Nat.add_zero]
      · cases e
    | insufficient =>
      cases strict with
      | false => -- the skip is counted
        simp only [contribOfSite, getD_replicate, add_zero, Bool.false_eq_true, if_false, decide_true, if_true]
      | true => -- the error
        simp only [if_true]

/-- The reader's state is projected away: nothing of it survives a record. -/
theorem runLoop_range (cfg : SiteCfg) (hpt : ∀ pt, cfg.projectTo = some pt → pt.length = numPops cfg.map)
    (strict : Bool) : ∀ (recs : List Rec) (g : Nat → α) (n k : Nat) (site : SiteSt),
    site.counts.length = numPops cfg.map → site.totals.length = numPops cfg.map →
    (runLoop cfg strict ⟨(List.range (size cfg.outShape)).map g, n, k, site⟩ recs).map
        (fun st => (st.scs, st.sites, st.skipped)) =
      match firstStop cfg strict recs with
      | some e => .error e
      | none => .ok ((List.range (size cfg.outShape)).map fun f =>
                      g f + (recs.map fun r => (recContrib (α := α) cfg r).getD f 0).sum,
                    n + recs.length, k + (recs.filter (recSkipped cfg)).length)
  | [], g, n, k, site, _, _ => by simp [runLoop, firstStop, Except.map]
  | .corrupt c p :: rs, g, n, k, site, _, _ => rfl
  | .gts c p l :: rs, g, n, k, site, h1, h2 => by
    obtain ⟨l1, l2⟩ := readSite_lengths cfg site l
    rw [runLoop, runStep_range cfg hpt strict g n k site h1 h2, firstStop_cons cfg strict _ rs]
    cases firstStop cfg strict [.gts c p l] with
    | some e => rfl
    | none =>
      simp only [Option.none_or]
      rw [runLoop_range cfg hpt strict rs _ _ _ _ (l1.trans h1) (l2.trans h2)]
      cases firstStop cfg strict rs with
      | some e => rfl
      | none =>
        -- reassociation in all three components; `filter.length` becomes `countP` so that `countP_cons` shows the `if`
        -- that `runStep_range` produced
        simp only [List.map_cons, List.sum_cons, List.length_cons, ← List.countP_eq_length_filter, List.countP_cons,
          add_assoc, Nat.add_comm 1, Nat.add_comm (List.countP _ rs)]

theorem createRun_eq (cfg : SiteCfg) (hpt : ∀ pt, cfg.projectTo = some pt → pt.length = numPops cfg.map)
    (strict : Bool) (recs : List Rec) :
    createRun (α := α) cfg strict recs =
      match firstStop cfg strict recs with
      | some e => .error e
      | none => .ok (sumContrib cfg recs, recs.length, (recs.filter (recSkipped cfg)).length) := by
  have h := runLoop_range (α := α) cfg hpt strict recs (fun _ => 0) 0 0 (SiteSt.fresh (numPops cfg.map))
    (by simp [SiteSt.fresh]) (by simp [SiteSt.fresh])
  simp only [zero_add, List.map_const', List.length_range] at h
  refine Eq.trans ?_ h
  simp only [createRun]
  generalize runLoop (α := α) cfg strict _ recs = q
  cases q <;> rfl

theorem firstStop_append (cfg : SiteCfg) (strict : Bool) (a b : List Rec) :
    firstStop cfg strict (a ++ b) = (firstStop cfg strict a).or (firstStop cfg strict b) := by
  induction a with
  | nil => rfl
  | cons r rs ih => rw [List.cons_append, firstStop_cons, ih, firstStop_cons cfg strict r rs, Option.or_assoc]

theorem createRun_append (cfg : SiteCfg) (hpt : ∀ pt, cfg.projectTo = some pt → pt.length = numPops cfg.map)
    (strict : Bool) (a b : List Rec) :
    createRun (α := α) cfg strict (a ++ b) =
      match createRun (α := α) cfg strict a, createRun (α := α) cfg strict b with
      | .error e, _ => .error e
      | .ok _, .error e => .error e
      | .ok (x, n, k), .ok (y, m, j) => .ok (List.zipWith (· + ·) x y, n + m, k + j) := by
  simp only [createRun_eq cfg hpt, firstStop_append]
  cases firstStop cfg strict a <;> cases firstStop cfg strict b <;> simp [sumContrib_append, List.filter_append]

theorem createRun_nonstrict (cfg : SiteCfg) (hc : CfgOk cfg) (recs : List Rec)
    (hok : ∀ r ∈ recs, recOk cfg r = true) :
    createRun (α := α) cfg false recs
      = .ok (sumContrib cfg recs, recs.length, (recs.filter (recSkipped cfg)).length) := by
  rw [createRun_eq cfg hc.projectTo_length, (firstStop_eq_none_iff cfg false recs).mpr ⟨hok, fun h => nomatch h⟩]

theorem createRun_ok_inv (cfg : SiteCfg) (hpt : ∀ pt, cfg.projectTo = some pt → pt.length = numPops cfg.map)
    (strict : Bool) (recs : List Rec) (res : List α × Nat × Nat)
    (h : createRun (α := α) cfg strict recs = .ok res) :
    (∀ r ∈ recs, recOk cfg r = true) ∧
    res = (sumContrib cfg recs, recs.length, (recs.filter (recSkipped cfg)).length) := by
  rw [createRun_eq cfg hpt] at h
  cases hf : firstStop cfg strict recs with
  | some e => rw [hf] at h; cases h
  | none =>
    rw [hf] at h
    exact ⟨((firstStop_eq_none_iff cfg strict recs).mp hf).1, (Except.ok.inj h).symm⟩

theorem recContrib_noproj_getD (cfg : SiteCfg) (hnd : cfg.cols.Nodup) (hnp : cfg.projectTo = none) (r : Rec)
    (hwf : RecWf cfg r) (hok : recOk cfg r = true) (k : List Nat) (hk : InB cfg.outShape k) :
    (recContrib (α := α) cfg r).getD (flat cfg.outShape k) 0 = if countsAt cfg k r then 1 else 0 := by
  cases r with
  | corrupt c p => cases hok
  | gts c p l =>
    have hpe : hasPloidyError (selected cfg.map cfg.cols l) = false := Bool.eq_false_iff.2 fun h => by
      rw [recOk, (siteSpec_none_iff cfg l).2 h] at hok
      cases hok
    simp only [recContrib, contrib, countsAt, gtsOf]
    by_cases hcmp : complete (selected cfg.map cfg.cols l) = true
    · have hin := alt_in_bounds cfg hnd hnp l hwf.1 hwf.2
      rw [siteSpec_noproj_complete cfg hnp l hpe hcmp, contribOfSite_standard_getD]
      simp only [hcmp, hin, and_true, true_and, decide_eq_true_eq]
      -- the flat position determines the index
      exact if_congr ⟨flat_inj _ _ _ hin hk, fun e => e ▸ rfl⟩ rfl rfl
    · rw [siteSpec_noproj cfg hnp l, hpe, if_neg Bool.false_ne_true, if_neg hcmp, contribOfSite_insufficient,
        getD_replicate]
      simp only [hcmp, Bool.false_eq_true, false_and, decide_false, if_false]

theorem sumContrib_noproj_getD (cfg : SiteCfg) (hnd : cfg.cols.Nodup) (hnp : cfg.projectTo = none) (recs : List Rec)
    (hwf : ∀ r ∈ recs, RecWf cfg r) (hok : ∀ r ∈ recs, recOk cfg r = true) (k : List Nat)
    (hk : InB cfg.outShape k) :
    (sumContrib (α := α) cfg recs).getD (flat cfg.outShape k) 0 = (((recs.filter (countsAt cfg k)).length : Nat) : α) := by
  rw [sumContrib_getD, ← sum_indicator]
  exact congrArg List.sum (List.map_congr_left fun r hr =>
    recContrib_noproj_getD cfg hnd hnp r (hwf r hr) (hok r hr) k hk)

end field

end Sfs
