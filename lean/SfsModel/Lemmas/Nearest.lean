/-
The decimal → binary64 conversion `f64BitsOfRatNonneg` step by step (exponent, scaling, rounding, packing) and the value
of the pattern it returns in the normal range; hence relative error at most 2^-53, integers below 2^53 exact.
-/
import SfsModel.Lemmas.F64Layout
namespace Sfs

/-- numerator / denominator of `N / D / 2^sh`. -/
def scalePair (N D : Nat) (sh : Int) : Nat × Nat :=
  if sh ≥ 0 then (N, D * 2 ^ sh.toNat) else (N * 2 ^ (-sh).toNat, D)

theorem scalePair_spec (N D : Nat) (sh : Int) (hD : 0 < D) :
    0 < (scalePair N D sh).2 ∧
      ((scalePair N D sh).1 : Rat) / ((scalePair N D sh).2 : Rat) = (N : Rat) / (D : Rat) * (2 : Rat) ^ (-sh) := by
  unfold scalePair
  by_cases h : sh ≥ 0
  · rw [if_pos h]
    refine ⟨Nat.mul_pos hD (Nat.pow_pos (by decide)), ?_⟩
    rw [Nat.cast_mul, natCast_two_pow, Int.toNat_of_nonneg h, zpow_neg, div_mul_eq_div_div, div_eq_mul_inv _ (2 ^ sh)]
  · rw [if_neg h]
    refine ⟨hD, ?_⟩
    rw [Nat.cast_mul, natCast_two_pow, Int.toNat_of_nonneg (by omega), mul_div_right_comm]

/-- the comparison `2^e ≤ N / D`. -/
def ratGe (N D : Nat) (e : Int) : Bool :=
  if e ≥ 0 then N ≥ D * 2 ^ e.toNat else N * 2 ^ (-e).toNat ≥ D

theorem ratGe_iff (N D : Nat) (e : Int) (hD : 0 < D) : ratGe N D e = true ↔ (2 : Rat) ^ e ≤ (N : Rat) / (D : Rat) := by
  obtain ⟨hd, hs⟩ := scalePair_spec N D e hD
  have hd' : (0 : Rat) < ((scalePair N D e).2 : Rat) := by exact_mod_cast hd
  have key : ratGe N D e = decide ((scalePair N D e).2 ≤ (scalePair N D e).1) := by
    unfold ratGe scalePair; split <;> rfl
  rw [key, decide_eq_true_iff, ← Nat.cast_le (α := Rat), ← one_le_div hd', hs, zpow_neg, ← div_eq_mul_inv,
    le_div_iff₀ (zpow2_pos e), one_mul]

/-- the exponent `⌊log₂ (N / D)⌋`, found from the bit lengths with one correction. -/
def ratExp (N D : Nat) : Int :=
  let e0 : Int := (log2Nat N : Int) - (log2Nat D : Int)
  if ratGe N D e0 then (if ratGe N D (e0 + 1) then e0 + 1 else e0) else e0 - 1

theorem log2_rat (n : Nat) (hn : n ≠ 0) :
    (2 : Rat) ^ (log2Nat n : Int) ≤ (n : Rat) ∧ (n : Rat) < (2 : Rat) ^ ((log2Nat n : Int) + 1) := by
  obtain ⟨h1, h2⟩ := log2_bounds n hn
  rw [log2Nat_eq]
  constructor
  · rw [← natCast_two_pow]; exact_mod_cast h1
  · rw [show ((Nat.log2 n : Int) + 1) = ((Nat.log2 n + 1 : Nat) : Int) by omega, ← natCast_two_pow]; exact_mod_cast h2

theorem ratExp_spec (N D : Nat) (hN : N ≠ 0) (hD : 0 < D) :
    (2 : Rat) ^ (ratExp N D) ≤ (N : Rat) / (D : Rat) ∧ (N : Rat) / (D : Rat) < (2 : Rat) ^ (ratExp N D + 1) := by
  obtain ⟨n1, n2⟩ := log2_rat N hN
  obtain ⟨d1, d2⟩ := log2_rat D hD.ne'
  have hDpos : (0 : Rat) < (D : Rat) := by exact_mod_cast hD
  unfold ratExp
  generalize (log2Nat N : Int) = a at *
  generalize (log2Nat D : Int) = b at *
  -- `2^(a-b-1) < N / D < 2^(a-b+1)`: the candidate `a - b` is off by at most one, downwards
  have hup : (N : Rat) / (D : Rat) < (2 : Rat) ^ (a - b + 1) := by
    rw [div_lt_iff₀ hDpos]
    calc (N : Rat) < (2 : Rat) ^ (a + 1) := n2
      _ = (2 : Rat) ^ (a - b + 1) * (2 : Rat) ^ b := by rw [← zpow2_add]; congr 1; omega
      _ ≤ (2 : Rat) ^ (a - b + 1) * (D : Rat) := mul_le_mul_of_nonneg_left d1 (zpow2_pos _).le
  have hdn : (2 : Rat) ^ (a - b - 1) ≤ (N : Rat) / (D : Rat) := by
    rw [le_div_iff₀ hDpos]
    calc (2 : Rat) ^ (a - b - 1) * (D : Rat) ≤ (2 : Rat) ^ (a - b - 1) * (2 : Rat) ^ (b + 1) :=
          mul_le_mul_of_nonneg_left d2.le (zpow2_pos _).le
      _ = (2 : Rat) ^ a := by rw [← zpow2_add]; congr 1; omega
      _ ≤ (N : Rat) := n1
  have hge1 : ratGe N D (a - b + 1) = false := by
    rw [← Bool.not_eq_true, ratGe_iff _ _ _ hD]; exact not_le.2 hup
  -- so the model's branch `e0 + 1` is dead; what is left is `e0` or `e0 - 1`
  simp only [hge1, Bool.false_eq_true, if_false]
  by_cases hg : ratGe N D (a - b) = true
  · rw [if_pos hg]
    exact ⟨(ratGe_iff _ _ _ hD).1 hg, hup⟩
  · rw [if_neg hg]
    rw [ratGe_iff _ _ _ hD, not_le] at hg
    exact ⟨hdn, by rwa [show a - b - 1 + 1 = a - b by omega]⟩

/-- exponent field and mantissa field from the exponent `e`, clamped to `ec` for subnormals, and the rounded mantissa `m`. -/
def packF64 (e ec : Int) (m : Nat) : Nat :=
  if e < -1022 then m
  else
    let (m, ee) := if m = 2 ^ 53 then (2 ^ 52, ec + 1) else (m, ec)
    if ee > 1023 then 2047 * 2 ^ 52
    else ((ee + 1023).toNat) * 2 ^ 52 + (m - 2 ^ 52)

/-- `f64BitsOfRatNonneg` step by step: exponent, clamp, scale by `2^(ec - 52)`, round, pack. -/
def ratBits (N D : Nat) : Nat :=
  let e := ratExp N D
  let ec : Int := if e < -1022 then -1022 else e
  packF64 e ec (roundHE (scalePair N D (ec - 52)).1 (scalePair N D (ec - 52)).2)

theorem f64BitsOfRatNonneg_pos (q : Rat) (hq : 0 < q) : f64BitsOfRatNonneg q = ratBits q.num.natAbs q.den := by
  -- with the steps unfolded too the two sides agree up to `let`, which `rw` closes; a bare `rfl` searches for that
  unfold f64BitsOfRatNonneg ratBits ratExp ratGe scalePair packF64 roundHE
  rw [if_neg (not_le.2 hq)]

theorem f64BitsOfRatNonneg_of_nonpos (x : Rat) (h : x ≤ 0) : f64BitsOfRatNonneg x = 0 := by
  unfold f64BitsOfRatNonneg; rw [if_pos h]

theorem f64OfBits_packF64 (e : Int) (m : Nat) (h1 : -1022 ≤ e) (h2 : e ≤ 1022) (m1 : 2 ^ 52 ≤ m) (m2 : m ≤ 2 ^ 53) :
    f64OfBits (packF64 e e m) = .fin ((m : Rat) * (2 : Rat) ^ (e - 52)) ∧ packF64 e e m < 2 ^ 63 := by
  have hp : packF64 e e m = (e + 1023).toNat * 2 ^ 52 + (m - 2 ^ 52) := by
    unfold packF64
    rw [if_neg (by omega)]
    by_cases hm : m = 2 ^ 53
    · subst hm
      rw [if_pos rfl]
      dsimp only
      rw [if_neg (by omega), show (e + 1 + 1023).toNat = (e + 1023).toNat + 1 by omega, Nat.add_mul, Nat.one_mul,
        Nat.sub_self, Nat.add_zero, show (2 : Nat) ^ 53 - 2 ^ 52 = 2 ^ 52 by decide]
    · rw [if_neg hm]
      dsimp only
      rw [if_neg (by omega)]
  rw [hp, show e - 52 = ((e + 1023).toNat : Int) - 1075 by omega]
  exact f64OfBits_normal _ m (by omega) (by omega) m1 m2

/-- `x` in the binade `[2^e, 2^(e+1))`, scaled to `k + 1` bits. -/
theorem binade_scaled (x : Rat) (e : Int) (k : Nat) (h1 : (2 : Rat) ^ e ≤ x) (h2 : x < (2 : Rat) ^ (e + 1)) :
    ((2 ^ k : Nat) : Rat) ≤ x * (2 : Rat) ^ (-(e - k)) ∧ x * (2 : Rat) ^ (-(e - k)) ≤ ((2 ^ (k + 1) : Nat) : Rat) := by
  have hp := zpow2_pos (-(e - k))
  constructor
  · rw [natCast_two_pow, show (2 : Rat) ^ (k : Int) = (2 : Rat) ^ e * (2 : Rat) ^ (-(e - k)) by
      rw [← zpow2_add]; congr 1; omega]
    exact mul_le_mul_of_nonneg_right h1 hp.le
  · rw [natCast_two_pow, show (2 : Rat) ^ ((k + 1 : Nat) : Int) = (2 : Rat) ^ (e + 1) * (2 : Rat) ^ (-(e - k)) by
      rw [← zpow2_add]; congr 1; omega]
    exact mul_le_mul_of_nonneg_right h2.le hp.le

theorem ratBits_normal (N D : Nat) (hN : N ≠ 0) (hD : 0 < D) (h1 : -1022 ≤ ratExp N D) (h2 : ratExp N D ≤ 1022) :
    f64OfBits (ratBits N D) =
      .fin ((roundHE (scalePair N D (ratExp N D - 52)).1 (scalePair N D (ratExp N D - 52)).2 : Rat) *
        (2 : Rat) ^ (ratExp N D - 52)) ∧ ratBits N D < 2 ^ 63 := by
  -- Names here and in the three theorems below. `s1 s2`: the input lies in its binade `[2^e, 2^(e+1))`, `e = ratExp`;
  -- `hd hx`: the scaled pair has a positive denominator and is the fraction `input · 2^(52 - e)`; `r1 r2`: that fraction
  -- lies in `[2^52, 2^53]`; below also `b1 b2`: bounds on `e`; `c1 c2`: the value of the pattern, and pattern `< 2^63`.
  obtain ⟨s1, s2⟩ := ratExp_spec N D hN hD
  obtain ⟨hd, hx⟩ := scalePair_spec N D (ratExp N D - 52) hD
  obtain ⟨r1, r2⟩ := binade_scaled _ _ 52 s1 s2
  unfold ratBits
  simp only [if_neg (not_lt.2 h1)]
  exact f64OfBits_packF64 _ _ h1 h2 (le_roundHE hd hx _ r1) (roundHE_le hd hx _ r2)

/-- the nearest binary64 of a rational in the normal range: relative error at most `2^-53`. -/
theorem nearest_normal (q : Rat) (hlo : (2 : Rat) ^ (-1022 : Int) ≤ q) (hhi : q < (2 : Rat) ^ (1023 : Int)) :
    ∃ v : Rat, f64OfBits (f64BitsOfRatNonneg q) = .fin v ∧ |v - q| * (2 : Rat) ^ (53 : Int) ≤ q ∧
      f64BitsOfRatNonneg q < 2 ^ 63 := by
  have hq : 0 < q := lt_of_lt_of_le (zpow2_pos _) hlo
  have hN : q.num.natAbs ≠ 0 := by have := Rat.num_pos.2 hq; omega
  obtain ⟨s1, s2⟩ := ratExp_spec _ _ hN q.den_pos
  obtain ⟨hd, hx⟩ := scalePair_spec q.num.natAbs q.den (ratExp q.num.natAbs q.den - 52) q.den_pos
  rw [num_div_den_nonneg q hq.le] at s1 s2 hx
  have b1 : ratExp q.num.natAbs q.den < 1023 := (zpow2_lt _ _).1 (lt_of_le_of_lt s1 hhi)
  have b2 : -1022 < ratExp q.num.natAbs q.den + 1 := (zpow2_lt _ _).1 (lt_of_le_of_lt hlo s2)
  obtain ⟨c1, c2⟩ := ratBits_normal _ _ hN q.den_pos (by omega) (by omega)
  rw [f64BitsOfRatNonneg_pos q hq]
  refine ⟨_, c1, ?_, c2⟩
  have hnear := roundHE_near hd hx
  generalize ratExp q.num.natAbs q.den = e at *
  generalize (roundHE _ _ : Rat) = m at *
  -- `|m·2^(e-52) - q| = |m - q·2^(52-e)|·2^(e-52) ≤ 2^(e-53) ≤ q·2^-53`
  have e1 : m * (2 : Rat) ^ (e - 52) - q = (m - q * (2 : Rat) ^ (-(e - 52))) * (2 : Rat) ^ (e - 52) := by
    rw [sub_mul, mul_assoc, ← zpow2_add, neg_add_cancel, zpow_zero, mul_one]
  have e2 : (2 : Rat) ^ (e - 52) * (2 : Rat) ^ (53 : Int) = 2 * (2 : Rat) ^ e := by
    rw [← zpow2_add, show e - 52 + 53 = 1 + e by omega, zpow2_add, zpow_one]
  rw [e1, abs_mul, abs_of_pos (zpow2_pos _), mul_assoc, e2]
  calc _ ≤ 1 / 2 * (2 * (2 : Rat) ^ e) := mul_le_mul_of_nonneg_right hnear (mul_pos two_pos (zpow2_pos e)).le
    _ = (2 : Rat) ^ e := by ring
    _ ≤ q := s1

theorem ratBits_natCast (n : Nat) (h0 : n ≠ 0) (hn : n < 2 ^ 53) :
    f64OfBits (ratBits n 1) = .fin (n : Rat) ∧ ratBits n 1 < 2 ^ 63 := by
  obtain ⟨s1, s2⟩ := ratExp_spec n 1 h0 Nat.one_pos
  obtain ⟨hd, hx⟩ := scalePair_spec n 1 (ratExp n 1 - 52) Nat.one_pos
  rw [Nat.cast_one, div_one] at s1 s2 hx
  have b1 : 0 ≤ ratExp n 1 := by
    have : (2 : Rat) ^ (0 : Int) ≤ (n : Rat) := by rw [zpow_zero]; exact_mod_cast Nat.pos_of_ne_zero h0
    have := (zpow2_lt _ _).1 (lt_of_le_of_lt this s2); omega
  have b2 : ratExp n 1 < ((53 : Nat) : Int) :=
    (zpow2_lt _ _).1 (lt_of_le_of_lt s1 (by rw [← natCast_two_pow]; exact_mod_cast hn))
  obtain ⟨c1, c2⟩ := ratBits_normal n 1 h0 Nat.one_pos (by omega) (by omega)
  refine ⟨?_, c2⟩
  -- `n · 2^(52 - e)` is an integer, so rounding keeps it
  have hk : (n : Rat) * (2 : Rat) ^ (-(ratExp n 1 - 52)) = ((n * 2 ^ (52 - ratExp n 1).toNat : Nat) : Rat) := by
    rw [Nat.cast_mul, natCast_two_pow, Int.toNat_of_nonneg (by omega)]; congr 2; omega
  rw [c1, roundHE_natCast hd _ (hx.trans hk), ← hk, mul_assoc, ← zpow2_add, neg_add_cancel, zpow_zero, mul_one]

/-- `ratBits_natCast` through `f64BitsOfRat`, zero included. -/
theorem f64BitsOfRat_natCast (n : Nat) (hn : n < 2 ^ 53) :
    f64OfBits (f64BitsOfRat (n : Rat)) = .fin (n : Rat) ∧ f64BitsOfRat (n : Rat) < 2 ^ 63 := by
  unfold f64BitsOfRat
  rw [if_neg (not_lt.2 (Nat.cast_nonneg n))]
  by_cases h0 : n = 0
  · subst h0
    rw [f64BitsOfRatNonneg_of_nonpos _ (by simp)]
    exact ⟨by rw [Nat.cast_zero]; exact f64OfBits_zero, by decide⟩
  · rw [f64BitsOfRatNonneg_pos _ (by exact_mod_cast Nat.pos_of_ne_zero h0), Rat.num_natCast, Int.natAbs_natCast,
      Rat.den_natCast]
    exact ratBits_natCast n h0 hn

theorem f64BitsOfRatNonneg_tiny (q : Rat) (h0 : 0 < q) (h : q * (2 : Rat) ^ (1075 : Int) < 1) :
    f64BitsOfRatNonneg q = 0 := by
  have hN : q.num.natAbs ≠ 0 := by have := Rat.num_pos.2 h0; omega
  obtain ⟨s1, _⟩ := ratExp_spec _ _ hN q.den_pos
  obtain ⟨hd, hx⟩ := scalePair_spec q.num.natAbs q.den (-1022 - 52) q.den_pos
  rw [num_div_den_nonneg q h0.le] at s1 hx
  have he : ratExp q.num.natAbs q.den < -1022 := by
    have : (2 : Rat) ^ (ratExp q.num.natAbs q.den + 1075) < (2 : Rat) ^ (0 : Int) := by
      rw [zpow2_add, zpow_zero]
      exact lt_of_le_of_lt (mul_le_mul_of_nonneg_right s1 (zpow2_pos _).le) h
    have := (zpow2_lt _ _).1 this; omega
  rw [f64BitsOfRatNonneg_pos q h0]
  unfold ratBits packF64
  simp only [if_pos he]
  have hp := mul_pos h0 (zpow2_pos (-(-1022 - 52)))
  have hX : q * (2 : Rat) ^ (1075 : Int) = q * (2 : Rat) ^ (-(-1022 - 52 : Int)) * 2 := by
    rw [mul_assoc, ← zpow_add_one₀ (by norm_num)]; norm_num
  rw [hX] at h
  generalize q * (2 : Rat) ^ (-(-1022 - 52 : Int)) = X at *
  apply roundHE_of_near hd hx 0
  rw [Nat.cast_zero, zero_sub, abs_neg, abs_of_pos hp]
  linarith only [h]

end Sfs
