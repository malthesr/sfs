/-
Projection commutes with marginalization: the kernel summed over the removed target axes is the kernel of the remaining
axes (each hypergeometric row sums to one).
-/
import SfsModel.Lemmas.Marginalize
import SfsModel.Lemmas.Hyper
namespace Sfs
open Finset

theorem ProjOk.dropFrom (A : List Nat) : ∀ {fs ts : List Nat} (n : Nat), ProjOk fs ts →
    ProjOk (dropFrom A fs n) (dropFrom A ts n)
  | [], [], _, h => h
  | _ :: _, _ :: _, n, h => by
    obtain ⟨h0, h'⟩ := ProjOk.cons_iff.mp h
    rw [dropFrom_cons, dropFrom_cons]
    split
    · exact ProjOk.dropFrom A (n + 1) h'
    · exact ProjOk.cons_iff.mpr ⟨h0, ProjOk.dropFrom A (n + 1) h'⟩
  | [], _ :: _, _, h => nomatch h.1
  | _ :: _, [], _, h => nomatch h.1

section field
variable {α : Type} [Field α]

/-- The kernel summed over all target indices that agree with `u` on the axes not listed in `A` is the kernel of
    those axes: a listed axis contributes a full row sum (one), any other axis the single term at `u`. -/
theorem sumBox_projectValue_dropFrom [CharZero α] (A : List Nat) {ns ks ms : List Nat}
    (hk : List.Forall₂ (· ≤ ·) ks ns) (hm : List.Forall₂ (· ≤ ·) ms ns) (k : Nat) {u : List Nat}
    (hu : List.Forall₂ (· ≤ ·) u (dropFrom A ms k)) :
    sumBox (ms.map (· + 1)) (fun ts => if dropFrom A ts k = u then (projectValue ns ks ms ts : α) else 0)
      = projectValue (dropFrom A ns k) (dropFrom A ks k) (dropFrom A ms k) u := by
  induction hm generalizing ks k u with
  | nil => cases hk; cases hu; simp [sumBox, projectValue, dropFrom_nil]
  | cons hmn _ ih =>
    cases hk with | cons hkn hk =>
    simp only [dropFrom_cons] at hu ⊢
    by_cases hA : k ∈ A
    · simp only [if_pos hA] at hu ⊢
      simp only [List.map_cons, sumBox, dropFrom_cons, if_pos hA, projectValue_cons, ← mul_ite_zero,
        sumBox_mul_left, ih hk _ hu, ← Finset.sum_mul, hyper_sum_one _ _ _ hkn hmn, one_mul]
    · simp only [if_neg hA] at hu ⊢
      cases hu with | cons htm hu =>
      simp only [List.map_cons, sumBox, dropFrom_cons, if_neg hA, List.cons.injEq, projectValue_cons]
      rw [Finset.sum_eq_single_of_mem _ (mem_range.mpr (Nat.lt_succ_of_le htm))
        (fun x _ hx => by simp only [hx, false_and, if_false, sumBox_zero])]
      simp only [true_and, ← mul_ite_zero, sumBox_mul_left, ih hk _ hu]

theorem coeff_drop [CharZero α] (A : List Nat) {fs ts : List Nat} (hok : ProjOk fs ts) {f t' : Nat}
    (hf : f < size fs) (ht' : t' < size (dropIdx A ts)) :
    ∑ t ∈ range (size ts), (if dropIdx A (unflat ts t) = unflat (dropIdx A ts) t' then (C03.coeff fs ts f t : α) else 0)
      = projectValue ((dropIdx A fs).map (· - 1)) (dropIdx A (unflat fs f)) ((dropIdx A ts).map (· - 1))
          (unflat (dropIdx A ts) t') := by
  -- `dropIdx` and `coeff` opened by hand: left to unification, they are unfolded at every comparison of the summands
  unfold dropIdx C03.coeff at *
  rw [sum_unflat ts (fun idx => if dropFrom A idx 0 = unflat (dropFrom A ts 0) t' then
      (projectValue (fs.map (· - 1)) (unflat fs f) (ts.map (· - 1)) idx : α) else 0),
    ← dropFrom_map, ← dropFrom_map]
  have := sumBox_projectValue_dropFrom (α := α) A (unflat_inB fs f hf).le_pred hok.le_pred 0
    (u := unflat (dropFrom A ts 0) t') (by rw [dropFrom_map]; exact (unflat_inB _ _ ht').le_pred)
  rwa [map_pred_succ ts hok.to_pos] at this

/-- Projection commutes with marginalization, and this needs only that the two first steps succeed: then so do the two
    second steps, with the same result. -/
theorem project_marginalize_ok [CharZero α] (a : Arr α) (hlen : a.data.length = size a.shape) (A ts : List Nat)
    (p m : Arr α) (hp : project a ts = .ok p) (hm : marginalize a A = .ok m) :
    ∃ pm, marginalize p A = .ok pm ∧ project m (dropIdx A ts) = .ok pm := by
  obtain ⟨hok, hpshape, hpdata⟩ := project_spec a p ts hlen hp
  obtain ⟨⟨hnd, hb, hl⟩, _⟩ := (marginalize_eq_ok_iff a m A).mp hm
  have hmarg := marginalize_spec a m A hlen hm
  -- `p` has as many axes as `a`, so the same axes may go; `m` has the shape `dropIdx A a.shape`, still above the target
  obtain ⟨pm, hpm⟩ : ∃ pm, marginalize p A = .ok pm :=
    ⟨_, marginalize_ok p A hnd (by rwa [hpshape, ← hok.length_eq]) (by rwa [hpshape, ← hok.length_eq])⟩
  obtain ⟨mq, hmq⟩ := (project_isOk_iff m (dropIdx A ts)).mpr (hmarg.1 ▸ ProjOk.dropFrom A 0 hok)
  -- what is left is `pm = mq`
  refine ⟨pm, hpm, hmq.trans (congrArg _ (Eq.symm ?_))⟩
  obtain ⟨hpmshape, hpmdata⟩ := marginalize_spec p pm A (project_data_length a p ts hlen hp) hpm
  obtain ⟨_, hmqshape, hmqdata⟩ := project_spec m mq (dropIdx A ts) hmarg.data_length hmq
  rw [hpshape] at hpmshape hpmdata
  refine Arr.ext ?_ (hpmshape.trans hmqshape.symm)
  rw [hpmdata, hmqdata]
  refine List.map_congr_left fun t' ht' => ?_
  -- right: push the test function `K'(·, t')` back along the marginal; left: `p`'s entries written out and the sums
  -- exchanged, so that the inner sum is `coeff_drop`
  refine Eq.trans ?_ (hmarg.sum_mul (fun idx => projectValue (m.shape.map (· - 1)) idx ((dropIdx A ts).map (· - 1))
    (unflat (dropIdx A ts) t'))).symm
  rw [hmarg.1]
  have hrow : ∀ t ∈ range (size ts),
      (if dropIdx A (unflat ts t) = unflat (dropIdx A ts) t' then p.data.getD t 0 else 0)
        = ∑ f ∈ range (size a.shape), a.data.getD f 0 *
            (if dropIdx A (unflat ts t) = unflat (dropIdx A ts) t' then (C03.coeff a.shape ts f t : α) else 0) := by
    intro t ht
    rw [hpdata, getD_range_map, if_pos (mem_range.mp ht)]
    split
    · rfl
    · simp only [mul_zero, Finset.sum_const_zero]
  rw [Finset.sum_congr rfl hrow, Finset.sum_comm]
  exact Finset.sum_congr rfl fun f hf => by
    rw [← Finset.mul_sum, coeff_drop A hok (mem_range.mp hf) (List.mem_range.mp ht')]

end field
end Sfs
