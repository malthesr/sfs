/-
Standard output's line writer (`Model/Stdout.lean`) over the short-writing, possibly failing descriptor: every operation
appends to what has been written — what the descriptor has plus what is buffered — and leaves the descriptor's failure
point where it is, so the flushed writer behaves as one `write_all` of the concatenation on the descriptor itself.
-/
import SfsModel.Model.Stdout
import SfsModel.Lemmas.IoModel
namespace Sfs

theorem splitLastNewline_some (b lines tail : List Nat) (h : splitLastNewline b = some (lines, tail)) :
    lines ++ tail = b := by
  unfold splitLastNewline at h
  simp only at h
  split at h
  · cases h
  · cases h
    have key : ∀ d t : List Nat, b = d ++ t → b.take (b.length - t.length) ++ t = b := by
      intro d t h; subst h; simp
    refine key (b.reverse.dropWhile (· ≠ 10)).reverse _ ?_
    rw [← List.reverse_append, List.takeWhile_append_dropWhile, List.reverse_reverse]

theorem splitLastNewline_none (b : List Nat) (h : 10 ∉ b) : splitLastNewline b = none := by
  unfold splitLastNewline
  have ht : b.reverse.takeWhile (· ≠ 10) = b.reverse := by
    have := List.takeWhile_append_of_pos (p := (· ≠ 10)) (l₁ := b.reverse) (l₂ := [])
      (fun x hx => by simpa using fun he : x = 10 => h (he ▸ List.mem_reverse.1 hx))
    simpa using this
  simp only [ht, List.reverse_reverse, if_true]

/-- `Wr.Appends` for the line writer: the bytes written so far are those the descriptor has plus those buffered. -/
def LineWr.Appends (l : LineWr) (b : List Nat) (x : Except IoErr LineWr) : Prop :=
  (∃ k, l.inner.failAt = some k ∧ k < l.buf.length + b.length ∧ x = .error .io) ∨
  ∃ l', x = .ok l' ∧ l'.inner.out ++ l'.buf = l.inner.out ++ l.buf ++ b ∧ l'.inner.failPos = l.inner.failPos

theorem LineWr.Appends.nil (l : LineWr) : LineWr.Appends l [] (.ok l) := .inr ⟨l, rfl, (List.append_nil _).symm, rfl⟩

theorem LineWr.Appends.seq {l l' : LineWr} {b c x} (ho : l'.inner.out ++ l'.buf = l.inner.out ++ l.buf ++ b)
    (hp : l'.inner.failPos = l.inner.failPos) (h : LineWr.Appends l' c x) : LineWr.Appends l (b ++ c) x := by
  rcases h with ⟨k', hk', hlt, he⟩ | ⟨l'', he, ho', hp'⟩
  · simp only [Wr.failPos, hk', Option.map_some] at hp
    obtain ⟨k, hk, hkk⟩ := Option.map_eq_some_iff.1 hp.symm
    have := congrArg List.length ho
    simp only [List.length_append] at this
    exact .inl ⟨k, hk, by rw [List.length_append]; omega, he⟩
  · exact .inr ⟨l'', he, by rw [ho', ho, List.append_assoc], hp'.trans hp⟩

/-- A first step, then `f` on what it leaves: the two pieces appended, a failure of the first step the failure of the
    whole. The proofs below follow the `match`es of the model with it; the model writes them with the error case first … -/
theorem LineWr.Appends.bind {l : LineWr} {b c : List Nat} {x : Except IoErr LineWr} {f : LineWr → Except IoErr LineWr}
    (h : LineWr.Appends l b x) (hf : ∀ l', x = .ok l' → LineWr.Appends l' c (f l')) :
    LineWr.Appends l (b ++ c) (match (generalizing := false) x with
      | .error e => .error e
      | .ok l' => f l') := by
  rcases h with ⟨k, hk, hlt, rfl⟩ | ⟨l', rfl, ho, hp⟩
  · exact .inl ⟨k, hk, by rw [List.length_append]; omega, rfl⟩
  · exact .seq ho hp (hf l' rfl)

/-- … or last. -/
theorem LineWr.Appends.bind' {l : LineWr} {b c : List Nat} {x : Except IoErr LineWr} {f : LineWr → Except IoErr LineWr}
    (h : LineWr.Appends l b x) (hf : ∀ l', x = .ok l' → LineWr.Appends l' c (f l')) :
    LineWr.Appends l (b ++ c) (match (generalizing := false) x with
      | .ok l' => f l'
      | .error e => .error e) := by
  have := h.bind hf
  cases x <;> exact this

theorem LineWr.flushBuf_appends (l : LineWr) :
    LineWr.Appends l [] l.flushBuf ∧ ∀ l', l.flushBuf = .ok l' → l'.buf = [] := by
  unfold LineWr.flushBuf
  by_cases hb : l.buf.isEmpty = true
  · rw [if_pos hb]
    exact ⟨.nil l, fun l' he => by cases he; exact List.isEmpty_iff.1 hb⟩
  · rw [if_neg hb]
    rcases l.inner.writeAllOf_appends l.buf with ⟨k, hk, hlt, he⟩ | ⟨w', he, ho, hp⟩
    · rw [he]; exact ⟨.inl ⟨k, hk, hlt, rfl⟩, fun _ h => nomatch h⟩
    · rw [he]; exact ⟨.inr ⟨_, rfl, by simp only [List.append_nil]; exact ho, hp⟩, fun _ h => by cases h; rfl⟩

theorem LineWr.Appends.of_inner {l : LineWr} (hb : l.buf = []) {b : List Nat} {x : Except IoErr Wr}
    (h : Wr.Appends l.inner b x) :
    LineWr.Appends l b (match (generalizing := false) x with
      | .ok w => .ok { l with inner := w }
      | .error e => .error e) := by
  rcases h with ⟨k, hk, hlt, rfl⟩ | ⟨w', rfl, ho, hp⟩
  · exact .inl ⟨k, hk, by omega, rfl⟩
  · exact .inr ⟨_, rfl, by rw [hb, List.append_nil, List.append_nil]; exact ho, hp⟩

theorem LineWr.bufWriteAll_appends (l : LineWr) (b : List Nat) : LineWr.Appends l b (l.bufWriteAll b) := by
  unfold LineWr.bufWriteAll
  have h1 : LineWr.Appends l [] (if l.buf.length + b.length > LineWr.cap then l.flushBuf else .ok l) := by
    split
    · exact l.flushBuf_appends.1
    · exact .nil l
  refine h1.bind fun l1 he => ?_
  by_cases hge : b.length ≥ LineWr.cap
  · rw [if_pos hge]
    -- bytes this long do not fit beside anything buffered: the buffer has been flushed, or was empty
    have hb : l1.buf = [] := by
      split at he
      · exact l.flushBuf_appends.2 l1 he
      · cases he; exact List.eq_nil_of_length_eq_zero (by omega)
    exact LineWr.Appends.of_inner hb (l1.inner.writeAllOf_appends b)
  · rw [if_neg hge]; exact .inr ⟨_, rfl, (List.append_assoc _ _ _).symm, rfl⟩

theorem LineWr.writeAll_appends (l : LineWr) (b : List Nat) : LineWr.Appends l b (l.writeAll b) := by
  unfold LineWr.writeAll
  cases hs : splitLastNewline b with
  | none =>
    dsimp only
    have h1 : LineWr.Appends l [] (if l.buf.getLast? = some 10 then l.flushBuf else .ok l) := by
      split
      · exact l.flushBuf_appends.1
      · exact .nil l
    exact h1.bind fun l1 _ => l1.bufWriteAll_appends b
  | some lt =>
    obtain ⟨lines, tail⟩ := lt
    rw [← splitLastNewline_some b lines tail hs]
    dsimp only
    refine LineWr.Appends.bind ?_ fun l1 _ => l1.bufWriteAll_appends tail
    split
    · next hc => exact LineWr.Appends.of_inner (List.isEmpty_iff.1 hc) (l.inner.writeAllOf_appends lines)
    · have := (l.bufWriteAll_appends lines).bind' fun l2 _ => l2.flushBuf_appends.1
      rwa [List.append_nil] at this

theorem LineWr.writePieces_appends (ps : List (List Nat)) (l : LineWr) :
    LineWr.Appends l ps.flatten (LineWr.writePieces ps l) := by
  induction ps generalizing l with
  | nil => exact .nil l
  | cons p ps ih =>
    rw [LineWr.writePieces, List.flatten_cons]
    exact (l.writeAll_appends p).bind' fun l' _ => ih l'

theorem stdoutWrite_appends (pieces : List (List Nat)) (w : Wr) : Wr.Appends w pieces.flatten (stdoutWrite pieces w) := by
  unfold stdoutWrite
  rcases LineWr.writePieces_appends pieces { inner := w } with ⟨k, hk, hlt, he⟩ | ⟨l1, he, ho, hp⟩
  · rw [he]; exact .inl ⟨k, hk, by simpa using hlt, rfl⟩
  rw [he]
  dsimp only
  obtain ⟨h2, hb⟩ := l1.flushBuf_appends
  rcases h2.seq ho hp with ⟨k, hk, hlt, he2⟩ | ⟨l2, he2, ho2, hp2⟩
  · rw [he2]; exact .inl ⟨k, hk, by simpa using hlt, rfl⟩
  · rw [he2]
    refine .inr ⟨_, rfl, ?_, hp2⟩
    rw [hb l2 he2, List.append_nil] at ho2
    rw [ho2]; simp only [List.append_nil]

theorem LineWr.writeAll_buffers (l : LineWr) (b : List Nat) (hnl : 10 ∉ b) (hlast : l.buf.getLast? ≠ some 10)
    (hfit : l.buf.length + b.length ≤ LineWr.cap) (hlt : b.length < LineWr.cap) :
    l.writeAll b = .ok { l with buf := l.buf ++ b } := by
  unfold LineWr.writeAll
  rw [splitLastNewline_none b hnl]
  dsimp only
  rw [if_neg hlast]
  dsimp only
  unfold LineWr.bufWriteAll
  rw [if_neg (by omega)]
  dsimp only
  rw [if_neg (by omega)]

end Sfs
