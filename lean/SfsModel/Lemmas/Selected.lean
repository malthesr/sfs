/-
The clauses of `Spec.CfgOk` by name, `lookupPop` as membership, and the selected pairs of a record: a function of
the genotypes in the selected columns alone; the column loop `tally` aborts exactly on a ploidy error among them. Core Lean only.
-/
import SfsModel.Spec.Create
namespace Sfs
open Sfs.Spec

theorem Spec.CfgOk.cols_nodup {cfg : SiteCfg} (hc : CfgOk cfg) : cfg.cols.Nodup := hc.1

theorem Spec.CfgOk.mem_cols {cfg : SiteCfg} (hc : CfgOk cfg) : ∀ p ∈ cfg.map, p.1 ∈ cfg.cols := hc.2.1

theorem Spec.CfgOk.keys_nodup {cfg : SiteCfg} (hc : CfgOk cfg) : (cfg.map.map (·.1)).Nodup := hc.2.2.1

theorem Spec.CfgOk.id_lt {cfg : SiteCfg} (hc : CfgOk cfg) : ∀ p ∈ cfg.map, p.2 < numPops cfg.map := hc.2.2.2.1

theorem Spec.CfgOk.projectTo_length {cfg : SiteCfg} (hc : CfgOk cfg) :
    ∀ pt, cfg.projectTo = some pt → pt.length = numPops cfg.map := hc.2.2.2.2

theorem mem_of_lookupPop_eq_some (map : List (String × Nat)) (c : String) (j : Nat) (h : lookupPop map c = some j) :
    (c, j) ∈ map := by
  obtain ⟨p, hf, rfl⟩ := Option.map_eq_some_iff.mp h
  obtain rfl : p.1 = c := by simpa using List.find?_some hf
  exact List.mem_of_find?_eq_some hf

theorem lookupPop_eq_some_iff {m : List (String × Nat)} (hnd : (m.map (·.1)).Nodup) (s : String) (j : Nat) :
    lookupPop m s = some j ↔ (s, j) ∈ m := by
  induction m with
  | nil => simp [lookupPop]
  | cons q m ih =>
    obtain ⟨k, v⟩ := q
    rw [List.map_cons, List.nodup_cons] at hnd
    have ih := ih hnd.2
    unfold lookupPop at ih ⊢
    by_cases hk : k = s
    · subst hk
      have : ∀ j, (k, j) ∉ m := fun j h => hnd.1 (List.mem_map.2 ⟨_, h, rfl⟩)
      simp [this, eq_comm]
    · simp [hk, ih, Ne.symm hk]

theorem lookupPop_perm {m m' : List (String × Nat)} (hp : m.Perm m') (hnd : (m.map (·.1)).Nodup) (s : String) :
    lookupPop m s = lookupPop m' s :=
  Option.ext fun j => by
    rw [lookupPop_eq_some_iff hnd, lookupPop_eq_some_iff ((hp.map _).nodup hnd), hp.mem_iff]

theorem selected_cons_none {map : List (String × Nat)} {c : String} {cs : List String} {g : GtRes} {gs : List GtRes}
    (h : lookupPop map c = none) : selected map (c :: cs) (g :: gs) = selected map cs gs := by
  simp [selected, h]

theorem selected_cons_some {map : List (String × Nat)} {c : String} {pid : Nat} {cs : List String} {g : GtRes}
    {gs : List GtRes} (h : lookupPop map c = some pid) :
    selected map (c :: cs) (g :: gs) = (pid, g) :: selected map cs gs := by
  simp [selected, h]

theorem complete_cons (p : Nat × GtRes) (sel : List (Nat × GtRes)) :
    complete (p :: sel) = ((match p.2 with | .genotype _ => true | _ => false) && complete sel) := rfl

theorem hasPloidyError_cons (p : Nat × GtRes) (sel : List (Nat × GtRes)) :
    hasPloidyError (p :: sel) = (decide (p.2 = .ploidyError) || hasPloidyError sel) := rfl

theorem complete_iff (sel : List (Nat × GtRes)) : complete sel = true ↔ ∀ p ∈ sel, ∃ k, p.2 = .genotype k := by
  rw [complete, List.all_eq_true]
  refine forall_congr' fun p => imp_congr_right fun _ => ?_
  cases p.2 <;> simp

theorem hasPloidyError_iff (sel : List (Nat × GtRes)) :
    hasPloidyError sel = true ↔ ∃ p ∈ sel, p.2 = .ploidyError := by
  simp only [hasPloidyError, List.any_eq_true, decide_eq_true_eq]

theorem mem_selected_snd (map : List (String × Nat)) (cols : List String) (gts : List GtRes) (p : Nat × GtRes)
    (h : p ∈ selected map cols gts) : p.2 ∈ gts := by
  obtain ⟨cg, hcg, he⟩ := List.mem_filterMap.mp h
  obtain ⟨pid, _, rfl⟩ := Option.map_eq_some_iff.mp he
  exact (List.of_mem_zip hcg).2

/-- `d` is any default. -/
theorem mem_selected_iff (map : List (String × Nat)) (cols : List String) (gts : List GtRes)
    (hl : cols.length = gts.length) (d : GtRes) (p : Nat × GtRes) :
    p ∈ selected map cols gts ↔
      ∃ i, i < cols.length ∧ lookupPop map (cols.getD i "") = some p.1 ∧ gts.getD i d = p.2 := by
  simp only [selected, List.mem_filterMap, Option.map_eq_some_iff]
  constructor
  · rintro ⟨cg, hcg, pid, hpid, rfl⟩
    obtain ⟨i, hi, rfl⟩ := List.mem_iff_getElem.1 hcg
    simp only [List.length_zip, ← hl, Nat.min_self] at hi
    exact ⟨i, hi, by simpa [List.getD_eq_getElem?_getD, hi] using hpid,
      by simp [List.getD_eq_getElem?_getD, hl ▸ hi]⟩
  · rintro ⟨i, hi, hpid, hg⟩
    have hi' : i < gts.length := hl ▸ hi
    refine ⟨(cols[i], gts[i]), List.mem_iff_getElem.2 ⟨i, by simp only [List.length_zip]; omega, by simp⟩,
      p.1, by simpa [List.getD_eq_getElem?_getD, hi] using hpid, ?_⟩
    exact Prod.ext rfl (by simpa [List.getD_eq_getElem?_getD, hi'] using hg)

theorem selected_filter_length (map : List (String × Nat)) (cols : List String) (gts : List GtRes)
    (hl : gts.length = cols.length) (j : Nat) :
    ((selected map cols gts).filter (fun p => p.1 = j)).length
      = (cols.filter (fun c => lookupPop map c = some j)).length := by
  -- both sides count the pairs of `cols.zip gts` whose column is looked up into `j`
  have e : cols = (cols.zip gts).map Prod.fst := (List.map_fst_zip (by omega)).symm
  rw [← List.countP_eq_length_filter, ← List.countP_eq_length_filter, selected, List.countP_filterMap, e,
    List.countP_map, ← e]
  apply List.countP_congr
  intro cg _
  cases h : lookupPop map cg.1 <;> simp [h]

/-- The hypothesis "equal wherever the column is selected", stated by position, one column further. -/
theorem agree_selected_cons {map : List (String × Nat)} {c : String} {cs : List String} {g g' : GtRes}
    {gs gs' : List GtRes}
    (h : ∀ i, i < (c :: cs).length → (lookupPop map ((c :: cs).getD i "")).isSome →
      (g :: gs).getD i .ploidyError = (g' :: gs').getD i .ploidyError) :
    ((lookupPop map c).isSome → g = g') ∧
    ∀ i, i < cs.length → (lookupPop map (cs.getD i "")).isSome → gs.getD i .ploidyError = gs'.getD i .ploidyError :=
  ⟨fun hs => h 0 (Nat.zero_lt_succ _) hs, fun i hi hs => h (i + 1) (Nat.succ_lt_succ hi) hs⟩

theorem selected_congr (map : List (String × Nat)) : ∀ (cols : List String) (gts gts' : List GtRes),
    gts.length = cols.length → gts'.length = cols.length →
    (∀ i, i < cols.length → (lookupPop map (cols.getD i "")).isSome →
      gts.getD i .ploidyError = gts'.getD i .ploidyError) →
    selected map cols gts = selected map cols gts'
  | [], _, _, _, _, _ => rfl
  | _ :: _, [], _, hl, _, _ => nomatch hl
  | _ :: _, _ :: _, [], _, hl', _ => nomatch hl'
  | c :: cs, g :: gs, g' :: gs', hl, hl', h => by
    obtain ⟨h0, hs⟩ := agree_selected_cons h
    have ih := selected_congr map cs gs gs' (Nat.succ.inj hl) (Nat.succ.inj hl') hs
    cases hp : lookupPop map c with
    | none => rw [selected_cons_none hp, selected_cons_none hp, ih]
    | some pid =>
      rw [selected_cons_some hp, selected_cons_some hp, ih, h0 (hp ▸ rfl)]

theorem tally_eq_none_iff (map : List (String × Nat)) : ∀ (cols : List String) (gts : List GtRes) (st : SiteSt),
    tally map cols gts st = none ↔ hasPloidyError (selected map cols gts) = true
  | [], gts, st | _ :: _, [], st => by simp [selected, tally, hasPloidyError]
  | c :: cs, g :: gs, st => by
    cases hl : lookupPop map c with
    | none =>
      rw [selected_cons_none hl, tally, hl]
      exact tally_eq_none_iff map cs gs st
    | some pid =>
      rw [selected_cons_some hl, tally, hl, hasPloidyError_cons]
      cases g with
      | ploidyError => simp
      | genotype k => simpa using tally_eq_none_iff map cs gs _
      | skipped s => simpa using tally_eq_none_iff map cs gs _

end Sfs
