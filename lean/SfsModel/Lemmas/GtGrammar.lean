/-
`parseGT` does not see phasing, and reads back what `C08.renderGT` writes, refusing the string when an allele index
does not fit the machine word.
-/
import SfsModel.Model.Create
import SfsModel.Lemmas.ListAux
namespace Sfs

def isSep (c : Char) : Prop := c = '/' ∨ c = '|'

theorem splitGT_eq (s : List Char) : splitGT s = s.splitOnP (fun c => c = '/' ∨ c = '|') :=
  eq_splitOnP _ splitGT rfl (fun x xs cur rest h => by simp [splitGT, h]) s

/-- the phasing normalisation used by `C08.parseGT_phasing` -/
def unphase (c : Char) : Char := if c = '|' then '/' else c

theorem splitGT_map_unphase (s : List Char) : splitGT (s.map unphase) = splitGT s := by
  rw [splitGT_eq, splitGT_eq]
  induction s with
  | nil => rfl
  | cons c cs ih =>
    rw [List.map_cons, List.splitOnP_cons_eq_if_modifyHead, List.splitOnP_cons_eq_if_modifyHead, ih]
    by_cases hc : c = '|'
    · subst hc; rfl
    · rw [unphase, if_neg hc]

theorem stripLeadSep_map_unphase (s : List Char) : stripLeadSep (s.map unphase) = (stripLeadSep s).map unphase := by
  cases s with
  | nil => rfl
  | cons c r =>
    by_cases hc : c = '|'
    · subst hc; simp [stripLeadSep, unphase]
    · by_cases hc' : c = '/'
      · subst hc'; simp [stripLeadSep, unphase]
      · simp [stripLeadSep, unphase, hc, hc']

theorem map_unphase_eq_dot (s : List Char) : s.map unphase = ['.'] ↔ s = ['.'] := by
  match s with
  | [] => simp
  | [c] =>
    by_cases hc : c = '|'
    · subst hc; simp [unphase]
    · simp [unphase, hc]
  | _ :: _ :: _ => simp

theorem parseGT_map_unphase (s : List Char) : parseGT (s.map unphase) = parseGT s := by
  unfold parseGT
  rw [stripLeadSep_map_unphase, splitGT_map_unphase]
  by_cases h : s = ['.']
  · rw [if_pos h, if_pos ((map_unphase_eq_dot s).2 h)]
  · rw [if_neg h, if_neg (fun h' => h ((map_unphase_eq_dot s).1 h'))]

namespace C08

def renderAllele : Option Nat → List Char
  | none => ['.']
  | some n => Nat.toDigits 10 n

/-- Rendering of an allele list with chosen separators (one separator per gap). -/
def renderGT : List (Option Nat) → List Char → List Char
  | [], _ => []
  | [a], _ => renderAllele a
  | a :: rest, sep :: seps => renderAllele a ++ sep :: renderGT rest seps
  | a :: rest, [] => renderAllele a ++ '/' :: renderGT rest []

end C08
open C08 (renderAllele renderGT)

theorem digit_ne_special (c : Char) (h : c.isDigit = true) : c ≠ '.' ∧ c ≠ '/' ∧ c ≠ '|' := by
  refine ⟨?_, ?_, ?_⟩ <;> (intro hc; subst hc; revert h; decide)

theorem renderAllele_no_sep (a : Option Nat) : ∀ c ∈ renderAllele a, decide (c = '/' ∨ c = '|') = false := by
  intro c hc
  cases a with
  | none => simp [renderAllele] at hc; subst hc; decide
  | some n => simpa using (digit_ne_special c (toDigits_isDigit n c hc)).2

theorem renderAllele_ne_nil (a : Option Nat) : renderAllele a ≠ [] := by
  cases a with
  | none => simp [renderAllele]
  | some n => exact Nat.toDigits_ne_nil

theorem splitGT_renderGT (al : List (Option Nat)) (seps : List Char) (hne : al ≠ [])
    (hs : ∀ c ∈ seps, c = '/' ∨ c = '|') : splitGT (renderGT al seps) = al.map renderAllele := by
  rw [splitGT_eq]
  fun_induction renderGT al seps with
  | case1 => exact absurd rfl hne
  | case2 a _ => simpa using List.splitOnP_eq_singleton (renderAllele_no_sep a)
  | case3 a rest sep seps hr ih =>
    rw [List.splitOnP_append_cons_of_forall_mem (renderAllele_no_sep a) sep (by simpa using hs sep (by simp)),
      ih (by rintro rfl; exact hr rfl) (fun c hc => hs c (by simp [hc]))]
    rfl
  | case4 a rest hr ih =>
    rw [List.splitOnP_append_cons_of_forall_mem (renderAllele_no_sep a) '/' (by decide),
      ih (by rintro rfl; exact hr rfl) (by simp)]
    rfl

theorem isDigits_toDigits (n : Nat) : isDigits (Nat.toDigits 10 n) = true := by
  simp only [isDigits, Bool.and_eq_true, Bool.not_eq_true', List.isEmpty_eq_false_iff, List.all_eq_true]
  exact ⟨Nat.toDigits_ne_nil, toDigits_isDigit n⟩

theorem toDigits_ne_dot (n : Nat) : Nat.toDigits 10 n ≠ ['.'] := fun h =>
  (digit_ne_special '.' (toDigits_isDigit n '.' (h ▸ List.mem_singleton_self _))).1 rfl

theorem digitsToNat_toDigits (n : Nat) : digitsToNat (Nat.toDigits 10 n) = n :=
  Nat.ofDigitChars_toDigits (b := 10) (by decide) (by decide)

theorem parseAlleleIndex_toDigits (n : Nat) :
    parseAlleleIndex (Nat.toDigits 10 n) = if n < 2 ^ 64 then some n else none := by
  unfold parseAlleleIndex
  split
  · -- the digits do not start with `+`
    rename_i r h
    have := isDigits_toDigits n
    simp [h, isDigits] at this
  · simp [isDigits_toDigits, digitsToNat_toDigits]

theorem parseAlleleIndex_plus_toDigits (n : Nat) :
    parseAlleleIndex ('+' :: Nat.toDigits 10 n) = if n < 2 ^ 64 then some n else none := by
  simp [parseAlleleIndex, isDigits_toDigits, digitsToNat_toDigits]

theorem parseAllele_renderAllele (a : Option Nat) :
    parseAllele (renderAllele a) = if ∀ n ∈ a, n < 2 ^ 64 then some a else none := by
  cases a with
  | none => simp [renderAllele, parseAllele]
  | some n =>
    simp only [renderAllele, parseAllele, if_neg (toDigits_ne_dot n), parseAlleleIndex_toDigits n]
    by_cases h : n < 2 ^ 64 <;> simp [h]

theorem stripLeadSep_of_head (s : List Char) (h : ∀ d, s.head? = some d → d ≠ '/' ∧ d ≠ '|') :
    stripLeadSep s = s := by
  cases s with
  | nil => rfl
  | cons c r =>
    have := h c rfl
    simp [stripLeadSep, this.1, this.2]

theorem stripLeadSep_cons_sep (c : Char) (hc : c = '/' ∨ c = '|') (s : List Char) : stripLeadSep (c :: s) = s := by
  simp [stripLeadSep, hc]

theorem stripLeadSep_renderGT (al : List (Option Nat)) (seps : List Char) (hne : al ≠ []) :
    stripLeadSep (renderGT al seps) = renderGT al seps := by
  -- the first character of a rendered allele is no separator
  have key : ∀ (a : Option Nat) (t : List Char), stripLeadSep (renderAllele a ++ t) = renderAllele a ++ t := fun a t => by
    obtain ⟨x, xs, hx⟩ := List.exists_cons_of_ne_nil (renderAllele_ne_nil a)
    have hx' : decide (x = '/' ∨ x = '|') = false := renderAllele_no_sep a x (by simp [hx])
    exact stripLeadSep_of_head _ (by rw [hx]; simpa using hx')
  fun_induction renderGT al seps with
  | case1 => exact absurd rfl hne
  | case2 a _ => simpa using key a []
  | case3 a rest sep seps => exact key a _
  | case4 a rest => exact key a _

theorem parseGT_renderGT (al : List (Option Nat)) (seps : List Char) (hne : al ≠ [])
    (hs : ∀ c ∈ seps, c = '/' ∨ c = '|') (hdot : al ≠ [none]) :
    parseGT (renderGT al seps) = if ∀ a ∈ al, ∀ n ∈ a, n < 2 ^ 64 then some (some al) else none := by
  have hnd : renderGT al seps ≠ ['.'] := fun h => by
    -- a lone `.` has one token, so it could only come from `[none]`
    have h2 := splitGT_renderGT al seps hne hs
    rw [h, show splitGT ['.'] = [['.']] from by decide, eq_comm, List.map_eq_singleton_iff] at h2
    obtain ⟨_ | n, rfl, h3⟩ := h2
    · exact hdot rfl
    · exact toDigits_ne_dot n h3
  unfold parseGT
  rw [if_neg hnd, stripLeadSep_renderGT al seps hne, splitGT_renderGT al seps hne hs]
  split
  · rename_i hfit
    rw [mapM_map_some renderAllele parseAllele id al
      (fun a ha => by rw [parseAllele_renderAllele, if_pos (hfit a ha)]; rfl), List.map_id]
    rfl
  · rename_i hbig
    obtain ⟨a, h⟩ := Classical.not_forall.1 hbig
    obtain ⟨ha, hn⟩ := Classical.not_imp.1 h
    rw [mapM_eq_none parseAllele (List.mem_map_of_mem ha) (by rw [parseAllele_renderAllele, if_neg hn])]
    rfl

end Sfs
