/-
The strided odometer `stepR`: one step from the little-endian digits of `j` (and the matching offset) yields those of
`j + 1`. The view iterator, the axis views and the counting iterators rest on it and on `runIter` traces.
-/
import SfsModel.Lemmas.Index
namespace Sfs

theorem runIter_trace {σ β} (next : σ → Option β × σ) (S : Nat → σ) (out : Nat → Option β)
    (h : ∀ j, next (S j) = (out j, S (j + 1))) : ∀ n k,
    runIter next n (S k) = ((List.range' k n).map out, S (k + n))
  | 0, k => rfl
  | n + 1, k => by
    simp only [runIter, h, runIter_trace next S out h n (k + 1), List.range'_succ, List.map_cons,
      Nat.add_assoc, Nat.add_comm 1]

theorem runIter_saturating {σ β} (next : σ → Option β × σ) (S : Nat → σ) (N : Nat) (g : Nat → Option β)
    (hlt : ∀ k, k < N → next (S k) = (g k, S (k + 1))) (hN : next (S N) = (none, S N)) (n : Nat) :
    runIter next n (S 0)
      = ((List.range n).map (fun j => if j < N then g j else none), S (min n N)) := by
  have h : ∀ j, next (S (min j N)) = ((if j < N then g j else none), S (min (j + 1) N)) := by
    intro j
    by_cases hj : j < N
    · rw [Nat.min_eq_left (Nat.le_of_lt hj), hlt j hj, if_pos hj, Nat.min_eq_left hj]
    · have hj' : N ≤ j := Nat.le_of_not_lt hj
      rw [Nat.min_eq_right hj', hN, if_neg hj, Nat.min_eq_right (Nat.le_succ_of_le hj')]
  have := runIter_trace next (fun j => S (min j N)) (fun j => if j < N then g j else none) h n 0
  rwa [Nat.zero_min, Nat.zero_add, ← List.range_eq_range'] at this

theorem runIter_counter {β} (next : Nat → Option β × Nat) (N : Nat) (g : Nat → Option β)
    (hlt : ∀ k, k < N → next k = (g k, k + 1)) (hN : next N = (none, N)) (n : Nat) :
    runIter next n 0
      = ((List.range n).map (fun j => if j < N then g j else none), min n N) :=
  runIter_saturating next id N g hlt hN n

/-- little-endian mixed-radix digits: last axis first -/
def unflatR : List Nat → Nat → List Nat
  | [], _ => []
  | v :: s, j => (j % v) :: unflatR s (j / v)

theorem unflatR_zero : ∀ s, unflatR s 0 = List.replicate s.length 0
  | [] => rfl
  | _ :: s => by simp [unflatR, unflatR_zero s, List.replicate_succ]

theorem unflatR_cons_add (s : List Nat) {v r : Nat} (q : Nat) (hr : r < v) :
    unflatR (v :: s) (q * v + r) = r :: unflatR s q := by
  rw [unflatR, (mul_add_div_mod q r v hr).1, (mul_add_div_mod q r v hr).2]

theorem stepR_spec : ∀ (shR stR : List Nat) (j : Nat), shR.length = stR.length →
    (∀ v ∈ shR, 0 < v) → j < size shR →
    stepR shR stR (unflatR shR j) (dot (unflatR shR j) stR)
      = if j + 1 < size shR then some (unflatR shR (j + 1), dot (unflatR shR (j + 1)) stR) else none
  | [], [], j, _, _, hj => by obtain rfl : j = 0 := Nat.lt_one_iff.1 hj; rfl
  | v :: sh, st :: sts, j, hl, hpos, hj => by
    rw [size, Nat.mul_comm] at hj ⊢
    obtain ⟨q, r, hq, hr, rfl⟩ := exists_eq_mul_add hj
    have ih := stepR_spec sh sts q (Nat.succ.inj hl) (fun w hw => hpos w (List.mem_cons_of_mem _ hw)) hq
    rw [unflatR_cons_add sh q hr, stepR, dot]
    by_cases hc : r + 1 < v
    · -- no carry: `j + 1 = q * v + (r + 1)`, the offset gains one stride
      rw [if_pos hc, Nat.add_assoc (q * v), if_pos (mul_add_lt_mul hq hc), unflatR_cons_add sh q hc, dot,
        Nat.add_mul, Nat.one_mul, Nat.add_right_comm]
    · -- carry: the backstride takes the offset back to that of the higher digits; `j + 1 = (q + 1) * v + 0`
      obtain rfl : v = r + 1 := by omega
      have hnext : q * (r + 1) + r + 1 = (q + 1) * (r + 1) + 0 := (Nat.succ_mul q (r + 1)).symm
      have hlt_iff : (q + 1) * (r + 1) + 0 < size sh * (r + 1) ↔ q + 1 < size sh :=
        Nat.mul_lt_mul_right (Nat.succ_pos r)
      rw [if_neg hc, Nat.add_sub_cancel, Nat.mul_comm st r, Nat.add_sub_cancel_left, ih, hnext,
        unflatR_cons_add sh (q + 1) (Nat.succ_pos r), dot, Nat.zero_mul, Nat.zero_add]
      by_cases hn : q + 1 < size sh <;> simp only [hlt_iff, hn, ↓reduceIte]
  | [], _ :: _, _, hl, _, _ => nomatch hl
  | _ :: _, [], _, hl, _, _ => nomatch hl

theorem unflatR_snoc : ∀ (a : List Nat) (v j : Nat), (∀ w ∈ a, 0 < w) → j < size a * v →
    unflatR (a ++ [v]) j = unflatR a (j % size a) ++ [j / size a]
  | [], v, j, _, hj => by
    simp [size] at hj
    simp [unflatR, size, Nat.mod_eq_of_lt hj]
  | x :: a, v, j, hpos, hj => by
    have hpos' : ∀ w ∈ a, 0 < w := fun w hw => hpos w (by simp [hw])
    simp only [size] at hj
    have hj' : j / x < size a * v := by
      apply Nat.div_lt_of_lt_mul
      rw [← Nat.mul_assoc]; exact hj
    have ih := unflatR_snoc a v (j / x) hpos' hj'
    simp only [List.cons_append, unflatR, size, ih]
    rw [Nat.mod_mul_right_mod, Nat.mod_mul_right_div_self, Nat.div_div_eq_div_mul]

theorem unflatR_reverse : ∀ (s : List Nat) (j : Nat), (∀ w ∈ s, 0 < w) → j < size s →
    unflatR s.reverse j = (unflat s j).reverse
  | [], j, _, _ => by simp [unflatR, unflat]
  | v :: s, j, hpos, hj => by
    have hpos' : ∀ w ∈ s, 0 < w := fun w hw => hpos w (by simp [hw])
    have hposr : ∀ w ∈ s.reverse, 0 < w := fun w hw => hpos' w (by simpa using hw)
    rw [List.reverse_cons, unflatR_snoc s.reverse v j hposr (by rw [size_reverse, Nat.mul_comm]; exact hj)]
    rw [size_reverse, unflatR_reverse s (j % size s) hpos' (Nat.mod_lt _ (Nat.pos_of_lt_mul_left hj))]
    simp [unflat]

theorem dot_unflatR_reverse (sh st : List Nat) (j : Nat) (hl : sh.length = st.length)
    (hj : j < size sh) : dot (unflatR sh.reverse j) st.reverse = dot st (unflat sh j) := by
  rw [unflatR_reverse sh j (size_pos_iff.1 (by omega)) hj, dot_reverse _ _ (by rw [unflat_length, hl]), dot_comm]

/-- State of `view::Iter` after `j ≤ size v.shape` calls of `next`: the coordinates are those of the item
    returned last. -/
def viewState {α} (v : View α) (j : Nat) : ViewIter :=
  ⟨unflatR v.shape.reverse (j - 1), dot (unflatR v.shape.reverse (j - 1)) v.strides.reverse, j⟩

/-- Item returned by call number `j` (0-based) of `view::Iter::next`. -/
def viewOut {α} (v : View α) (j : Nat) : Option α :=
  if j < size v.shape then v.data[dot v.strides (unflat v.shape j)]? else none

theorem viewState_zero {α} (v : View α) : viewState v 0 = ViewIter.init v := by
  simp [viewState, ViewIter.init, unflatR_zero, dot_replicate_zero]

theorem view_next_lt {α} (v : View α) (hl : v.shape.length = v.strides.length) (j : Nat)
    (hj : j < size v.shape) :
    v.next (viewState v j) = (v.data[dot v.strides (unflat v.shape j)]?, viewState v (j + 1)) := by
  rw [← dot_unflatR_reverse _ _ _ hl hj]
  cases j with
  | zero =>  -- the first call does not step; states 0 and 1 have the same coordinates (`0 - 1 = 1 - 1`)
    rw [unflatR_zero, dot_replicate_zero, ← List.head?_eq_getElem?, View.next,
      if_neg (Nat.not_le.2 hj : ¬ (viewState v 0).index ≥ size v.shape)]
    exact if_pos rfl
  | succ j =>
    have hspec := stepR_spec v.shape.reverse v.strides.reverse j (by simpa using hl)
      (fun w hw => size_pos_iff.1 (Nat.zero_lt_of_lt hj) w (List.mem_reverse.1 hw))
      (by rw [size_reverse]; omega)
    rw [size_reverse, if_pos hj] at hspec
    simp only [View.next, viewState, Nat.add_sub_cancel]
    rw [if_neg (Nat.not_le.2 hj), if_neg (Nat.succ_ne_zero j), hspec]

theorem view_next_end {α} (v : View α) :
    v.next (viewState v (size v.shape)) = (none, viewState v (size v.shape)) := by
  rw [View.next]
  exact if_pos (Nat.le_refl _)

theorem view_runIter {α} (v : View α) (hl : v.shape.length = v.strides.length) (n : Nat) :
    runIter v.next n (ViewIter.init v)
      = ((List.range n).map (viewOut v), viewState v (min n (size v.shape))) := by
  have := runIter_saturating v.next (viewState v) (size v.shape) _ (view_next_lt v hl) (view_next_end v) n
  rwa [viewState_zero] at this

/-- `collect` stops at the first `None`: from state `k`, with `m` items left, all of them `some`, and fuel to
    spare, it gathers those `m`. -/
theorem view_collect {α} (v : View α) (hl : v.shape.length = v.strides.length)
    (hs : ∀ j, j < size v.shape → (viewOut v j).isSome) : ∀ fuel k m, k + m = size v.shape → m < fuel →
    (v.collect fuel (viewState v k)).map some = (List.range' k m).map (viewOut v)
  | 0, _, _, _, h => absurd h (Nat.not_lt_zero _)
  | fuel + 1, k, 0, hk, _ => by rw [View.collect, show k = size v.shape from hk, view_next_end]; rfl
  | fuel + 1, k, m + 1, hk, h => by
    have hk' : k < size v.shape := by omega
    obtain ⟨x, hx⟩ := Option.isSome_iff_exists.mp (hs k hk')
    rw [View.collect, view_next_lt v hl k hk', List.range'_succ, List.map_cons, hx,
      ← view_collect v hl hs fuel (k + 1) m (by omega) (Nat.lt_of_succ_lt_succ h)]
    rw [viewOut, if_pos hk'] at hx
    rw [hx]; rfl

theorem view_toList_map_some {α} (v : View α) (hl : v.shape.length = v.strides.length)
    (hs : ∀ j, j < size v.shape → (viewOut v j).isSome) :
    v.toList.map some = (List.range (size v.shape)).map (viewOut v) := by
  rw [View.toList, ← viewState_zero, view_collect v hl hs _ 0 _ (Nat.zero_add _) (Nat.lt_succ_self _),
    ← List.range_eq_range']

/-- The view `get_axis(axis, i)` returns when in range: the `some` branch of `Arr.getAxis` (Model/Array.lean), kept in step
    with it; `getAxis_eq : … := rfl` is the check. -/
def axisView {α} (a : Arr α) (axis i : Nat) : View α :=
  ⟨a.data.drop (i * (strides a.shape).getD axis 0), removeAt a.shape axis,
   removeAt (strides a.shape) axis⟩

theorem getAxis_eq {α} (a : Arr α) (axis i : Nat) :
    a.getAxis axis i
      = if axis ≥ a.shape.length ∨ i ≥ a.shape.getD axis 0 then none else some (axisView a axis i) := rfl

theorem getAxis_eq_some {α} (a : Arr α) (axis i : Nat) (hax : axis < a.shape.length)
    (hi : i < a.shape.getD axis 0) : a.getAxis axis i = some (axisView a axis i) := by
  rw [getAxis_eq, if_neg (by omega)]

theorem getAxis_some_inv {α} (a : Arr α) (axis i : Nat) (v : View α)
    (hv : a.getAxis axis i = some v) :
    axis < a.shape.length ∧ i < a.shape.getD axis 0 ∧ v = axisView a axis i := by
  rw [getAxis_eq] at hv
  split at hv
  · cases hv
  · exact ⟨by omega, by omega, (Option.some.inj hv).symm⟩

theorem axisView_lengths {α} (a : Arr α) (axis i : Nat) (hax : axis < a.shape.length) :
    (axisView a axis i).shape.length = (axisView a axis i).strides.length := by
  simp only [axisView]
  rw [removeAt_length _ _ hax, removeAt_length _ _ (by rw [strides_length]; exact hax),
    strides_length]

theorem axisView_out {α} (a : Arr α) (axis i j : Nat) (hax : axis < a.shape.length)
    (hj : j < size (removeAt a.shape axis)) :
    viewOut (axisView a axis i) j
      = a.data[flat a.shape (insertAt (unflat (removeAt a.shape axis) j) axis i)]? := by
  unfold viewOut
  rw [if_pos (show j < size (axisView a axis i).shape from hj)]
  simp only [axisView]
  rw [List.getElem?_drop, flat_insertAt a.shape axis _ i hax (unflat_inB _ j hj)]

theorem axisView_toList {α} (a : Arr α) (axis i : Nat) (hlen : a.data.length = size a.shape)
    (hax : axis < a.shape.length) (hi : i < a.shape.getD axis 0) :
    (axisView a axis i).toList.map some = (List.range (size (removeAt a.shape axis))).map
      (fun j => a.data[flat a.shape (insertAt (unflat (removeAt a.shape axis) j) axis i)]?) := by
  have hout := fun j hj => axisView_out a axis i j hax hj
  rw [view_toList_map_some _ (axisView_lengths a axis i hax) fun j hj => by
    rw [hout j hj, isSome_getElem?, hlen]
    exact flat_lt _ _ (insertAt_inB a.shape axis _ i hax hi (unflat_inB _ j hj))]
  exact List.map_congr_left fun j hj => hout j (List.mem_range.mp hj)

theorem axisViews_eq {α} (a : Arr α) (axis : Nat) (hax : axis < a.shape.length) :
    a.axisViews axis = (List.range (a.shape.getD axis 0)).map (axisView a axis) := by
  unfold Arr.axisViews
  apply filterMap_eq_map_of_some
  intro i hi
  exact getAxis_eq_some a axis i hax (List.mem_range.mp hi)

theorem indices_runIter (s : List Nat) (n : Nat) :
    runIter (indicesNext s) n 0
      = ((List.range n).map (fun j => if j < size s then some (unflat s j) else none),
         min n (size s)) := by
  apply runIter_counter (indicesNext s) (size s) (fun j => some (unflat s j))
  · intro k hk
    simp [indicesNext, hk, indexFromFlat_eq s k hk]
  · simp [indicesNext]

/-- `iter_axis`: past the end of the axis, and for an axis that does not exist (`getD` is then `0`), every call is
    `None`. -/
theorem axis_runIter {α} (a : Arr α) (axis n : Nat) :
    runIter (a.axisNext axis) n 0
      = ((List.range n).map (fun i => a.getAxis axis i), min n (a.shape.getD axis 0)) := by
  have hnone : ∀ k, a.shape.getD axis 0 ≤ k → a.getAxis axis k = none := fun k hk => if_pos (Or.inr hk)
  rw [runIter_counter (a.axisNext axis) (a.shape.getD axis 0) (fun i => a.getAxis axis i)]
  · refine Prod.ext (List.map_congr_left fun j _ => ?_) rfl
    by_cases hj : j < a.shape.getD axis 0
    · exact if_pos hj
    · exact (if_neg hj).trans (hnone j (Nat.le_of_not_lt hj)).symm
  · intro k hk
    have hax : axis < a.shape.length :=
      Nat.lt_of_not_le fun h => by
        rw [List.getD_eq_getElem?_getD, List.getElem?_eq_none h] at hk; exact Nat.not_lt_zero k hk
    rw [Arr.axisNext, getAxis_eq_some a axis k hax hk]
  · rw [Arr.axisNext, hnone _ (Nat.le_refl _)]

end Sfs
