/-
The one-population statistics against the published estimator formulas (`Spec.pub*`). Only Fu and Li's D needs an
ordered field (`a_n ≠ 0`).
-/
import SfsModel.Lemmas.StatSum
import Mathlib.Algebra.Order.Field.Basic
import Mathlib.Algebra.Order.BigOperators.Group.List
namespace Sfs
open Sfs.Spec

section
variable {α : Type} [Field α]

theorem harmonic_eq_aN (n : Nat) : harmonic (α := α) n = aN n := by
  unfold harmonic harmonicP aN sumOver
  simp only [pow_one]

theorem harmonicP_two_eq_bN (n : Nat) : harmonicP (α := α) n 2 = bN n := by
  unfold harmonicP bN sumOver
  simp only [pow_two, Nat.cast_mul]

theorem segregating_eq_pubS (n : Nat) (x : List α) (hlen : x.length = n + 1) :
    segregating x = pubS n (fun i => x.getD i 0) := by
  unfold segregating pubS sumOver
  rw [interior_eq 0 x, hlen]; rfl

/-- on `n + 1` entries the estimator runs over the classes `1 … n-1` -/
theorem thetaEstimate_succ (w : Nat → Nat → α) (n : Nat) (x : List α) (hlen : x.length = n + 1) :
    thetaEstimate w x = ((List.range' 1 (n - 1)).map (fun i => w i n * x.getD i 0)).sum := by
  rw [thetaEstimate, sumList_eq_sum, interior_withIdx 0 x, List.map_map, hlen]
  rfl

theorem statTheta_eq_pub (n : Nat) (x : List α) (hlen : x.length = n + 1) :
    statTheta x = pubThetaW n (fun i => x.getD i 0) := by
  rw [statTheta, thetaEstimate_succ _ n x hlen, pubThetaW, pubS, sumOver, sumList_eq_sum, ← sum_map_div]
  refine congrArg List.sum (List.map_congr_left fun i _ => ?_)
  rw [wattersonWeight, harmonic_eq_aN, one_div_mul_eq_div]

theorem statPi_eq_pub (n : Nat) (x : List α) (hlen : x.length = n + 1) :
    statPi x = pubPi n (fun i => x.getD i 0) := by
  rw [statPi, thetaEstimate_succ _ n x hlen, pubPi, sumOver, sumList_eq_sum, ← sum_map_div]
  refine congrArg List.sum (List.map_congr_left fun i _ => ?_)
  rw [tajimaWeight, binom2_eq, div_mul_eq_mul_div]

/-- Beyond the harmonic numbers and the three sums the only difference between the code and the paper is `n ^ 2` for
    `n * n` in `b_2` (`pow_two`). -/
theorem dTajima_eq_pub (n : Nat) (x : List α) (hlen : x.length = n + 1) :
    dTajima x = pubTajimaD n (fun i => x.getD i 0) := by
  unfold dTajima pubTajimaD pubTajimaVar
  simp only [hlen, Nat.add_sub_cancel, harmonic_eq_aN, harmonicP_two_eq_bN, statPi_eq_pub n x hlen,
    statTheta_eq_pub n x hlen, segregating_eq_pubS n x hlen, pow_two]

/-- the code's `c_n = (2n a_n - 4(n-1)) / ((n-1)(n-2))` is the published `2 (n a_n - 2(n-1)) / ((n-1)(n-2))` -/
theorem fuLi_c_eq (n : Nat) (a : α) :
    (((2 * n : Nat) : α) * a - ((4 * (n - 1) : Nat) : α)) / ((((n - 1) * (n - 2) : Nat)) : α) =
      (((2 : Nat) : α) * (((n : Nat) : α) * a - ((2 * (n - 1) : Nat) : α))) / ((((n - 1) * (n - 2) : Nat)) : α) := by
  rw [show 4 * (n - 1) = 2 * (2 * (n - 1)) from Nat.mul_assoc 2 2 (n - 1), Nat.cast_mul 2 n,
    Nat.cast_mul 2 (2 * (n - 1)), mul_sub, mul_assoc]

end

section
variable {α : Type} [Field α] [LinearOrder α] [IsStrictOrderedRing α]

theorem aN_pos (n : Nat) (hn : 2 ≤ n) : 0 < aN (α := α) n := by
  unfold aN sumOver
  rw [sumList_eq_sum]
  refine List.sum_pos _ (fun y hy => ?_) (fun h => ?_)
  · obtain ⟨i, hi, rfl⟩ := List.mem_map.mp hy
    exact one_div_pos.mpr (Nat.cast_pos.mpr (List.mem_range'_1.mp hi).1)
  · exact absurd (List.range'_eq_nil_iff.mp (List.map_eq_nil_iff.mp h)) (Nat.sub_ne_zero_of_lt hn)

/-- The code's numerator `(θ_W - ξ_1) · a_n` is the published `S - a_n ξ_1` because `θ_W = S / a_n` and `a_n ≠ 0`. -/
theorem dFuLi_eq_pub (n : Nat) (hn : 2 ≤ n) (x : List α) (hlen : x.length = n + 1) :
    ∃ p, dFuLi x = some p ∧ p.num = (pubFuLiD n (fun i => x.getD i 0)).num ∧
      p.var = (pubFuLiD n (fun i => x.getD i 0)).var := by
  have hx : thetaFuLi x = some (x.getD 1 0) := by
    rw [thetaFuLi, List.getD_eq_getElem?_getD, List.getElem?_eq_getElem (by omega)]
    rfl
  have ha : aN (α := α) n ≠ 0 := ne_of_gt (aN_pos n hn)
  unfold dFuLi
  rw [hx]
  refine ⟨_, rfl, ?_, ?_⟩
  · simp only [pubFuLiD, statTheta_eq_pub n x hlen, pubThetaW, harmonic_eq_aN, hlen, Nat.add_sub_cancel]
    rw [sub_mul, div_mul_cancel₀ _ ha, mul_comm]
  · simp only [pubFuLiD, harmonic_eq_aN, harmonicP_two_eq_bN, segregating_eq_pubS n x hlen, hlen, Nat.add_sub_cancel,
      fuLi_c_eq]

end

end Sfs
