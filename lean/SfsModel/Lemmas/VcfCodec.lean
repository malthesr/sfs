/-
The VCF text written by `vcfEncode` is a list of `\n`-terminated lines (the header lines of Lemmas/VcfHeader.lean, then one
per record), a record line its fields joined by TAB.
-/
import SfsModel.Lemmas.VcfHeader
namespace Sfs

theorem natBytes_range (n : Nat) : ∀ b ∈ natBytes n, 48 ≤ b ∧ b ≤ 57 := by
  intro b hb
  obtain ⟨c, hc, rfl⟩ := List.mem_map.1 hb
  exact isDigit_toNat (toDigits_isDigit n c hc)

theorem natBytes_ne_nil (n : Nat) : natBytes n ≠ [] := fun h => showNat_ne_nil n (List.map_eq_nil_iff.1 h)

theorem bytesNat_natBytes (n : Nat) : bytesNat (natBytes n) = some n := by
  have hall : (natBytes n).all (fun b => decide (48 ≤ b ∧ b ≤ 57)) = true :=
    List.all_eq_true.2 fun b hb => decide_eq_true (natBytes_range n b hb)
  have hf : (natBytes n).foldl (fun acc b => 10 * acc + (b - 48)) 0 = n := by
    rw [natBytes, List.foldl_map]
    exact digitsVal_toDigits n
  rw [bytesNat, List.isEmpty_eq_false_iff.2 (natBytes_ne_nil n), hall, hf]
  rfl

theorem posNat_of_no_plus (l : List Nat) (h : 43 ∉ l) :
    posNat l = match bytesNat l with
      | some n => if n < 2 ^ 64 then some n else none
      | none => none := by
  unfold posNat
  split
  · rename_i r
    exact absurd (by simp) h
  · rfl

theorem posNat_natBytes (n : Nat) (hn : n < 2 ^ 64) : posNat (natBytes n) = some n := by
  have h43 : 43 ∉ natBytes n := fun hb => by have := natBytes_range n 43 hb; omega
  rw [posNat_of_no_plus _ h43, bytesNat_natBytes]
  simp [hn]

theorem renderGt_spec (g : GtRes) (h : WfGt g) :
    sampleGt (some 0) (renderGt g) = some g ∧ splitBytes 58 (renderGt g) = [renderGt g] ∧
      ∀ b ∈ renderGt g, b ≠ 9 ∧ b ≠ 10 ∧ b ≠ 13 := by
  cases g with
  | genotype k =>
    obtain rfl | rfl | rfl : k = 0 ∨ k = 1 ∨ k = 2 := by have : k ≤ 2 := h; omega
    all_goals decide +kernel
  | skipped s => cases s <;> decide +kernel
  | ploidyError => decide +kernel

def recLine (contig : String) (pos : Nat) (gts : List GtRes) : List Nat :=
  strBytes contig ++ [9] ++ natBytes pos ++ strBytes "\t.\tA\tC\t.\t.\t.\tGT" ++ gts.flatMap (fun g => 9 :: renderGt g)

theorem vcfEncodeRec_eq (contig : String) (pos : Nat) (gts : List GtRes) :
    vcfEncodeRec contig pos gts = recLine contig pos gts ++ [10] := rfl

def recFields (contig : String) (pos : Nat) (gts : List GtRes) : List (List Nat) :=
  strBytes contig :: natBytes pos :: ([[46], [65], [67], [46], [46], [46], [71, 84]] ++ gts.map renderGt)

theorem recLine_eq_joinTab (contig : String) (pos : Nat) (gts : List GtRes) :
    recLine contig pos gts = joinTab (recFields contig pos gts) := by
  have e0 : strBytes "\t.\tA\tC\t.\t.\t.\tGT" = [9, 46, 9, 65, 9, 67, 9, 46, 9, 46, 9, 46, 9, 71, 84] :=
    strBytes_ofList ['\t', '.', '\t', 'A', '\t', 'C', '\t', '.', '\t', '.', '\t', '.', '\t', 'G', 'T']
  simp [recLine, recFields, joinTab_cons, e0, List.flatMap_map]

theorem recFields_bytes (c : String) (hc : WfContig c) (p : Nat) (gts : List GtRes) (hg : ∀ g ∈ gts, WfGt g) :
    ∀ f ∈ recFields c p gts, ∀ b ∈ f, b ≠ 9 ∧ b ≠ 10 ∧ b ≠ 13 := by
  intro f hf b hb
  rcases List.mem_cons.1 hf with rfl | hf
  · have := wfContig_bytes hc hb; omega
  rcases List.mem_cons.1 hf with rfl | hf
  · have := natBytes_range p b hb; omega
  rcases List.mem_append.1 hf with hf | hf
  · exact (by decide : ∀ f ∈ [[46], [65], [67], [46], [46], [46], [71, 84]], ∀ b ∈ f, b ≠ 9 ∧ b ≠ 10 ∧ b ≠ 13) f hf b hb
  · obtain ⟨g, hgm, rfl⟩ := List.mem_map.1 hf
    exact (renderGt_spec g (hg g hgm)).2.2 b hb

theorem splitBytes_recLine (c : String) (hc : WfContig c) (p : Nat) (gts : List GtRes) (hg : ∀ g ∈ gts, WfGt g) :
    splitBytes 9 (recLine c p gts) = recFields c p gts := by
  rw [recLine_eq_joinTab]
  exact splitBytes_joinTab _ (List.cons_ne_nil _ _) (fun f hf h9 => (recFields_bytes c hc p gts hg f hf 9 h9).1 rfl)

theorem wfContig_charset (c : String) (hc : WfContig c) :
    c.toList.all (fun ch => ch.isAlphanum || ch == '_' || ch == '.' || ch == '-') = true := by
  simp only [List.all_eq_true, Bool.or_eq_true, beq_iff_eq]
  intro ch hch
  rcases hc.2 ch hch with h | h | h
  · exact .inl (.inl (.inl h))
  · exact .inl (.inl (.inr h))
  · exact .inl (.inr h)

theorem parseVcfRecord_recLine (c : String) (hc : WfContig c) (p : Nat) (hp : 1 ≤ p) (hp64 : p < 2 ^ 64)
    (gts : List GtRes) (hne : gts ≠ []) (hg : ∀ g ∈ gts, WfGt g) (prev : Nat) :
    parseVcfRecord gts.length prev (recLine c p gts) = some (.gts c p gts) := by
  have hs : (gts.map renderGt).isEmpty = false :=
    List.isEmpty_eq_false_iff.2 fun e => hne (List.map_eq_nil_iff.1 e)
  have hcne : (c == "") = false := by
    simp only [beq_eq_false_iff_ne, ne_eq]; exact hc.1
  have hb1 : isBases [65] = true := by decide
  have hb2 : splitBytes 44 [67] = [[67]] := by decide
  have hb3 : isAltAllele [67] = true := by decide
  have hk0 : splitBytes 58 [71, 84] = [[71, 84]] := by decide
  have hk1 : formatKeyOk [71, 84] = true := by decide
  have hkeys : ([[71, 84]] : List (List Nat)).idxOf? (strBytes "GT") = some 0 := by decide
  have hp' : ¬ p < 1 := by omega
  have htake : List.take gts.length (List.map renderGt gts) = List.map renderGt gts :=
    List.take_of_length_le (by rw [List.length_map]; exact Nat.le_refl _)
  have hm : List.mapM (sampleGt (some 0) ∘ renderGt) gts = some gts := by
    simpa using mapM_map_some renderGt (sampleGt (some 0)) id gts (fun g hgm => (renderGt_spec g (hg g hgm)).1)
  -- no sample has more values than keys, none a value of a further key: each is a single `:`-value
  have hfew : ((gts.map renderGt).any fun f => decide (f ≠ [46] ∧ (splitBytes 58 f).length > [[71, 84]].length)) = false :=
    List.any_eq_false.2 fun f hf => by
      obtain ⟨g, hgm, rfl⟩ := List.mem_map.1 hf
      rw [(renderGt_spec g (hg g hgm)).2.1]; simp
  have htyped : ((gts.map renderGt).any fun f => decide (f ≠ [46] ∧
      ((splitBytes 58 f).drop (if (some 0 : Option Nat).isSome = true then 1 else 0)).any
        (fun v => decide (v ≠ [46] ∧ (bytesNat v).isNone = true)) = true)) = false :=
    List.any_eq_false.2 fun f hf => by
      obtain ⟨g, hgm, rfl⟩ := List.mem_map.1 hf
      rw [(renderGt_spec g (hg g hgm)).2.1]; simp
  -- every test takes the plain branch: contig and POS by the `simp only`; then `hs`, `hp'`, the fixed fields by evaluation
  -- (`hb*`, `hk*`), the sample columns (`htake`, `hfew`, `htyped`) and their GT values (`hm`)
  unfold parseVcfRecord
  rw [splitBytes_recLine c hc p gts hg]
  dsimp only [recFields, List.cons_append, List.nil_append]
  simp only [wfContig_ascii hc, hcne, wfContig_charset c hc, posNat_natBytes p hp64, hs, hk0, hkeys]
  rw [htake, hfew, htyped]
  simp [hp', hb1, hb2, hb3, hk1, hasDupEntry, hm]

theorem recLine_bytes (c : String) (hc : WfContig c) (p : Nat) (gts : List GtRes) (hg : ∀ g ∈ gts, WfGt g) :
    ∀ b ∈ recLine c p gts, b ≠ 10 ∧ b ≠ 13 := by
  intro b hb
  rw [recLine_eq_joinTab] at hb
  rcases mem_joinTab hb with rfl | ⟨f, hf, hbf⟩
  · omega
  · exact (recFields_bytes c hc p gts hg f hf b hbf).2

theorem recLine_isEmpty (c : String) (hc : WfContig c) (p : Nat) (gts : List GtRes) :
    (recLine c p gts).isEmpty = false := by
  have := strBytes_ne_nil hc.1
  cases h : strBytes c with
  | nil => exact absurd h this
  | cons a t => simp [recLine, h]

def recLines (recs : List (String × Nat × List GtRes)) : List (List Nat) := recs.map (fun r => recLine r.1 r.2.1 r.2.2)

theorem parseVcfRecords_recLines (recs : List (String × Nat × List GtRes))
    (n : Nat) (hr : ∀ r ∈ recs, WfContig r.1 ∧ 1 ≤ r.2.1 ∧ r.2.2 ≠ [] ∧ (∀ g ∈ r.2.2, WfGt g) ∧ r.2.2.length = n)
    (hp64 : ∀ r ∈ recs, r.2.1 < 2 ^ 64) (prev : Nat) :
    parseVcfRecords n prev (recLines recs) = some (toRecs recs) := by
  induction recs generalizing prev with
  | nil => rfl
  | cons r rs ih =>
    obtain ⟨hc, hpos, hne, hg, hlen⟩ := hr r (by simp)
    have ih' := ih (fun r' hr' => hr r' (by simp [hr'])) (fun r' hr' => hp64 r' (by simp [hr'])) r.2.1
    have hrec := parseVcfRecord_recLine r.1 hc r.2.1 hpos (hp64 r (by simp)) r.2.2 hne hg prev
    rw [hlen] at hrec
    simp only [recLines, List.map_cons] at ih' ⊢
    unfold parseVcfRecords
    simp only [recLine_isEmpty r.1 hc, hrec, ih']
    simp [toRecs]

theorem vcfEncode_eq_lines (cols contigs : List String) (recs : List (String × Nat × List GtRes)) :
    vcfEncode cols contigs recs = (headerLines cols contigs ++ recLines recs).flatMap (· ++ [10]) := by
  unfold vcfEncode
  rw [headerText_eq_lines, List.flatMap_append]
  congr 1
  simp [recLines, List.flatMap_map, vcfEncodeRec_eq]

theorem vcfDecode_vcfEncode (cols contigs : List String) (recs : List (String × Nat × List GtRes))
    (h : WfCallSet cols contigs recs) :
    vcfDecode (vcfEncode cols contigs recs) = some (cols, toRecs recs) := by
  have hcw : ∀ c ∈ contigs, WfContig c := h.contigs_wf
  have hr : ∀ r ∈ recs, WfContig r.1 ∧ 1 ≤ r.2.1 ∧ r.2.2 ≠ [] ∧ (∀ g ∈ r.2.2, WfGt g) ∧ r.2.2.length = cols.length := by
    intro r hrm
    obtain ⟨hmem, hpos, hlen, hgt⟩ := h.recs_wf r hrm
    refine ⟨hcw _ hmem, hpos, ?_, hgt, hlen⟩
    intro e
    rw [e] at hlen
    exact h.cols_ne (List.eq_nil_of_length_eq_zero hlen.symm)
  have hlines : ∀ l ∈ headerLines cols contigs ++ recLines recs, ∀ b ∈ l, b ≠ 10 ∧ b ≠ 13 := by
    intro l hl
    rcases List.mem_append.1 hl with hl | hl
    · exact headerLines_bytes cols contigs h.cols_wf hcw l hl
    · obtain ⟨r, hrm, rfl⟩ := List.mem_map.1 hl
      exact recLine_bytes r.1 (hr r hrm).1 r.2.1 r.2.2 (hr r hrm).2.2.2.1
  have h13 : (vcfEncode cols contigs recs).contains 13 = false := by
    rw [vcfEncode_eq_lines]
    simp only [List.contains_eq_mem, decide_eq_false_iff_not, List.mem_flatMap, List.mem_append, List.mem_singleton]
    rintro ⟨l, hl, hb | hb⟩
    · exact (hlines l (List.mem_append.2 hl) 13 hb).2 rfl
    · omega
  unfold vcfDecode
  rw [h13, vcfEncode_eq_lines, splitLines_lines _ (fun l hl hb => (hlines l hl 10 hb).1 rfl),
    parseVcfHeaderLines_headerLines cols contigs h.cols_ne h.cols_wf h.cols_nodup hcw h.contigs_nodup]
  simp [parseVcfRecords_recLines recs cols.length hr h.pos_fits 1]

end Sfs
