/-
`sumList` is `List.sum` and `normalize` divides by it; `maskMonomorphic`; `viewRun` cut into its stages
(`viewRun_eq_stages`), from which a run with a single option is that stage alone.
-/
import SfsModel.Model.Spectrum
import SfsModel.Lemmas.ListAux
import Mathlib.Algebra.Field.Basic
import Mathlib.Algebra.BigOperators.Ring.List
namespace Sfs

theorem foldl_add_eq_sum {α} [AddCommMonoid α] (l : List α) (z : α) :
    l.foldl (· + ·) z = z + l.sum := by
  induction l generalizing z with
  | nil => simp
  | cons a l ih => simp [List.foldl_cons, ih, add_assoc]

theorem sumList_eq_sum {α} [AddCommMonoid α] (x : List α) : sumList x = x.sum := by
  unfold sumList
  rw [foldl_add_eq_sum, zero_add]

theorem normalize_eq_map {α} [Field α] (x : List α) : normalize x = x.map (· / x.sum) := by
  unfold normalize
  simp only [sumList_eq_sum]

theorem normalize_length {α} [Field α] (x : List α) : (normalize x).length = x.length := by
  rw [normalize_eq_map, List.length_map]

theorem normalize_sum {α} [Field α] (x : List α) (h : x.sum ≠ 0) :
    (normalize x).sum = 1 := by
  rw [normalize_eq_map]
  simp only [div_eq_mul_inv]
  rw [List.sum_map_mul_right, List.map_id', mul_inv_cancel₀ h]

theorem normalize_getD {α} [Field α] (x : List α) (i : Nat) :
    (normalize x).getD i 0 = x.getD i 0 / x.sum := by
  rw [normalize_eq_map]
  exact getD_map _ _ _ (zero_div _)

theorem normalize_ratio {α} [Field α] (x : List α) (i j : Nat) :
    (normalize x).getD i 0 * x.getD j 0 = (normalize x).getD j 0 * x.getD i 0 := by
  rw [normalize_getD, normalize_getD, div_mul_eq_mul_div, div_mul_eq_mul_div, mul_comm]

theorem maskMonomorphic_length {α} [OfNat α 0] (x : List α) :
    (maskMonomorphic x).length = x.length := by
  cases x with
  | nil => rfl
  | cons a l => rw [maskMonomorphic, List.length_set, List.length_set]

theorem maskMonomorphic_getElem? {α} [OfNat α 0] (x : List α) (i : Nat) (h : i < x.length) :
    (maskMonomorphic x)[i]? = if i = 0 ∨ i = x.length - 1 then some 0 else x[i]? := by
  cases x with
  | nil => exact absurd h (Nat.not_lt_zero _)
  | cons a l =>
    -- two `set`s, the later one wins; both positions are in range
    rw [maskMonomorphic, List.getElem?_set, List.getElem?_set, List.length_set]
    by_cases hl : (a :: l).length - 1 = i
    · rw [if_pos hl, if_pos (hl ▸ h), if_pos (Or.inr hl.symm)]
    · rw [if_neg hl]
      by_cases h0 : 0 = i
      · rw [if_pos h0, if_pos (Nat.zero_lt_of_lt h), if_pos (Or.inl h0.symm)]
      · rw [if_neg h0, if_neg (fun h => h.elim (fun e => h0 e.symm) (fun e => hl e.symm))]

section Pipeline
variable {α : Type} [Add α] [Mul α] [Div α] [NatCast α] [OfNat α 0] [OfNat α 1]

/-! `margStage`, `projStage`, `finStage` repeat the three parts of the body of `viewRun` (Model/Spectrum.lean) and are kept
in step with it; `viewRun_eq_stages : … := rfl` is the check. -/

/-- Stage 1 of `viewRun`: marginalization (`keep` wins over `remove`). -/
def margStage (r k : Option (List Nat)) (a : Arr α) : Except ViewErr (Arr α) :=
  match (match k, r with
    | some k, _ => some (keepToRemove a.shape.length k)
    | none, some r => some r
    | none, none => none : Option (List Nat)) with
  | some axes => match marginalize a axes with
    | .ok b => .ok b
    | .error e => .error (.marg e)
  | none => .ok a

/-- Stage 2 of `viewRun`: projection (`projectIndividuals` wins over `projectShape`). -/
def projStage (ps pi : Option (List Nat)) (b : Arr α) : Except ViewErr (Arr α) :=
  match (match pi, ps with
    | some is, _ => some (individualsToShape is)
    | none, some sh => some sh
    | none, none => none : Option (List Nat)) with
  | some t => match project b t with
    | .ok c => .ok c
    | .error e => .error (.proj e)
  | none => .ok b

/-- Stages 3 and 4 of `viewRun`: mask, then normalize. -/
def finStage (m n : Bool) (c : Arr α) : Arr α :=
  ⟨if n then normalize (if m then maskMonomorphic c.data else c.data)
    else (if m then maskMonomorphic c.data else c.data), c.shape⟩

theorem viewRun_eq_stages (o : ViewOpts) (a : Arr α) :
    viewRun o a =
      match margStage o.remove o.keep a with
      | .error e => .error e
      | .ok b =>
        match projStage o.projectShape o.projectIndividuals b with
        | .error e => .error e
        | .ok c => .ok (finStage o.mask o.normalize c) := rfl

theorem finStage_false_false {α : Type} [Add α] [Div α] [OfNat α 0] (c : Arr α) : finStage false false c = c := by
  cases c; rfl

theorem projStage_none (b : Arr α) : projStage none none b = .ok b := rfl

omit [Mul α] [Div α] [NatCast α] [OfNat α 1] in
theorem margStage_none (a : Arr α) : margStage none none a = .ok a := rfl

theorem viewRun_marg (r k : Option (List Nat)) (a : Arr α) :
    viewRun { remove := r, keep := k } a = margStage r k a := by
  rw [viewRun_eq_stages]
  cases margStage r k a with
  | error e => rfl
  | ok b => simp only [projStage_none, finStage_false_false]

theorem viewRun_proj (ps pi : Option (List Nat)) (b : Arr α) :
    viewRun { projectShape := ps, projectIndividuals := pi } b = projStage ps pi b := by
  rw [viewRun_eq_stages]
  simp only [margStage_none]
  cases projStage ps pi b with
  | error e => rfl
  | ok c => simp only [finStage_false_false]

theorem viewRun_fin (m n : Bool) (c : Arr α) :
    viewRun { mask := m, normalize := n } c = .ok (finStage m n c) := by
  rw [viewRun_eq_stages]
  simp only [margStage_none, projStage_none]

theorem finStage_split {α : Type} [Add α] [Div α] [OfNat α 0] (m n : Bool) (c : Arr α) :
    finStage false n (finStage m false c) = finStage m n c := by
  cases m <;> cases n <;> rfl

theorem viewRun_noop (a : Arr α) : viewRun {} a = .ok a := by
  rw [viewRun_eq_stages]
  simp only [margStage_none, projStage_none, finStage_false_false]

end Pipeline

end Sfs
