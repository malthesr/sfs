/-
`buildSite` in two stages: the configuration without a projection target, then the three projection checks on it;
what it returns is well formed (`Spec.CfgOk`).
-/
import SfsModel.Spec.Create
import SfsModel.Lemmas.Samples
import SfsModel.Lemmas.ProjectIter
namespace Sfs
open Sfs.Spec

/-- Without `--samples` the builder runs on the list of all columns, unnamed. -/
theorem buildSite_eq_some_samples (samples : Option (List (String × Pop))) (cols : List String) :
    ∃ l, ∀ project, buildSite samples project cols = buildSite (some l) project cols := by
  cases samples with
  | none => exact ⟨cols.map fun c => (c, Pop.unnamed), fun _ => by unfold buildSite sampleMapAll; rfl⟩
  | some l => exact ⟨l, fun _ => rfl⟩

theorem buildSite_none_inv (samples : Option (List (String × Pop))) (cols : List String) (cfg : SiteCfg)
    (h : buildSite samples none cols = .ok cfg) :
    ∃ l, cfg = ⟨sampleMap l, cols, none⟩ ∧ ∀ p ∈ sampleMap l, p.1 ∈ cols := by
  obtain ⟨l, hs⟩ := buildSite_eq_some_samples samples cols
  refine ⟨l, ?_⟩
  rw [hs] at h
  simp only [buildSite] at h
  split at h
  · cases h
  · split at h
    · cases h
    · next hfind =>
      cases h
      exact ⟨rfl, fun p hp => by simpa using List.find?_eq_none.mp hfind p hp⟩

theorem buildSite_project (samples : Option (List (String × Pop))) (toShape : List Nat) (cols : List String) :
    buildSite samples (some toShape) cols =
      match buildSite samples none cols with
      | .error e => .error e
      | .ok cfg0 =>
        if (mapShape cfg0.map).length ≠ toShape.length then
          .error (.projection (.unequalDimensions (mapShape cfg0.map).length toShape.length))
        else match firstSmaller (mapShape cfg0.map) toShape 0 with
          | some (d, f, t) => .error (.projection (.invalidProjection d f t))
          | none => match countOfShape toShape with
            | some pt => .ok ⟨cfg0.map, cfg0.cols, some pt⟩
            | none => .error (.projection .zero) := by
  obtain ⟨l, hs⟩ := buildSite_eq_some_samples samples cols
  rw [hs, hs]
  simp only [buildSite]
  split
  · rfl
  · split <;> rfl

theorem buildSite_ok (samples : Option (List (String × Pop))) (project : Option (List Nat)) (cols : List String)
    (hnd : cols.Nodup) (cfg : SiteCfg) (h : buildSite samples project cols = .ok cfg) : CfgOk cfg := by
  -- what is built without a target is well formed, and stays so with a target of the right length
  have key : ∀ cfg0, buildSite samples none cols = .ok cfg0 → ∀ o : Option (List Nat),
      (∀ pt, o = some pt → pt.length = (mapShape cfg0.map).length) → CfgOk ⟨cfg0.map, cfg0.cols, o⟩ := by
    intro cfg0 h0 o ho
    obtain ⟨l, rfl, hmem⟩ := buildSite_none_inv samples cols cfg0 h0
    exact ⟨hnd, hmem, sampleMap_keys_nodup l, sampleMap_snd_lt l, fun pt e => (ho pt e).trans (mapShape_length _)⟩
  cases project with
  | none =>
    obtain ⟨l, rfl, _⟩ := buildSite_none_inv samples cols cfg h
    exact key _ h none (fun _ e => nomatch e)
  | some toShape =>
    rw [buildSite_project] at h
    cases h0 : buildSite samples none cols with
    | error e => rw [h0] at h; cases h
    | ok cfg0 =>
      rw [h0] at h
      simp only at h
      split at h
      · cases h -- dimension error
      · next hlen =>
        split at h
        · cases h -- `firstSmaller`: a target axis too long
        · split at h
          · next pt hcs => -- the one successful arm
            cases h
            refine key cfg0 h0 _ fun pt' e => ?_
            cases e
            rw [((countOfShape_some_iff toShape pt).mp hcs).2, List.length_map, not_not.mp hlen]
          · cases h -- a zero in the target

end Sfs
