/-
Index arithmetic. Everything about `flat` / `unflat` goes through two induction principles: over `InB s idx`, and over
the positions `q * size s + r` below `size (v :: s)`, on which `unflat` is transparent (`unflat_cons_add`) and the
successor needs no division.
-/
import SfsModel.Model.Array
import SfsModel.Lemmas.ListAux
namespace Sfs

theorem Arr.ext {β} : ∀ {a b : Arr β}, a.data = b.data → a.shape = b.shape → a = b
  | ⟨_, _⟩, ⟨_, _⟩, rfl, rfl => rfl

theorem InB.induction {motive : ∀ s idx, InB s idx → Prop} (nil : motive [] [] trivial)
    (cons : ∀ v s i idx (hi : i < v) (h : InB s idx), motive s idx h → motive (v :: s) (i :: idx) ⟨hi, h⟩) :
    ∀ s idx h, motive s idx h
  | [], [], _ => nil
  | v :: s, i :: idx, h => cons v s i idx h.1 h.2 (InB.induction nil cons s idx h.2)
  | [], _ :: _, h => h.elim
  | _ :: _, [], h => h.elim

theorem InB.length_eq {s idx : List Nat} (h : InB s idx) : idx.length = s.length := by
  induction s, idx, h using InB.induction with
  | nil => rfl
  | cons v s i idx _ _ ih => rw [List.length_cons, List.length_cons, ih]

theorem InB_iff_getD : ∀ (s idx : List Nat),
    InB s idx ↔ idx.length = s.length ∧ ∀ j, j < s.length → idx.getD j 0 < s.getD j 0
  | [], [] => ⟨fun _ => ⟨rfl, fun _ h => absurd h (Nat.not_lt_zero _)⟩, fun _ => trivial⟩
  | [], _ :: _ => ⟨fun h => h.elim, fun h => nomatch h.1⟩
  | _ :: _, [] => ⟨fun h => h.elim, fun h => nomatch h.1⟩
  | v :: s, i :: idx => by
    simp only [InB, InB_iff_getD s idx, List.length_cons, Nat.add_right_cancel_iff, Nat.forall_lt_succ_left,
      List.getD_cons_zero, List.getD_cons_succ]
    exact and_left_comm

theorem InB_iff_inBounds : ∀ s idx, InB s idx ↔ s.length = idx.length ∧ inBounds s idx = true
  | [], [] => ⟨fun _ => ⟨rfl, rfl⟩, fun _ => trivial⟩
  | v :: s, i :: idx => by
    rw [InB, inBounds, InB_iff_inBounds s idx, List.length_cons, List.length_cons, Nat.add_right_cancel_iff,
      Bool.and_eq_true, decide_eq_true_eq]
    exact and_left_comm
  | [], _ :: _ => ⟨fun h => h.elim, fun h => nomatch h.1⟩
  | _ :: _, [] => ⟨fun h => h.elim, fun h => nomatch h.1⟩

theorem InB_range_map (n : Nat) (s a : Nat → Nat) (h : ∀ j, j < n → a j < s j) :
    InB ((List.range n).map s) ((List.range n).map a) := by
  have : ∀ l : List Nat, (∀ x ∈ l, a x < s x) → InB (l.map s) (l.map a) := by
    intro l hl
    induction l with
    | nil => trivial
    | cons x l ih => exact ⟨hl x (by simp), ih fun y hy => hl y (by simp [hy])⟩
  exact this _ fun j hj => h j (List.mem_range.mp hj)

theorem size_pos_iff : ∀ {s}, 0 < size s ↔ ∀ v ∈ s, 0 < v
  | [] => by simp [size]
  | v :: s => by
    simp only [size, List.mem_cons, forall_eq_or_imp, ← size_pos_iff (s := s)]
    exact ⟨fun h => ⟨Nat.pos_of_mul_pos_right h, Nat.pos_of_mul_pos_left h⟩, fun h => Nat.mul_pos h.1 h.2⟩

theorem size_append (a b : List Nat) : size (a ++ b) = size a * size b := by
  induction a with
  | nil => simp [size]
  | cons x a ih => simp [size, ih, Nat.mul_assoc]

theorem size_reverse (s : List Nat) : size s.reverse = size s := by
  induction s with
  | nil => rfl
  | cons v s ih => simp [List.reverse_cons, size_append, size, ih, Nat.mul_comm]

theorem unflat_cons_add (v : Nat) {s : List Nat} (q : Nat) {r : Nat} (hr : r < size s) :
    unflat (v :: s) (q * size s + r) = q :: unflat s r := by
  rw [unflat, (mul_add_div_mod q r (size s) hr).1, (mul_add_div_mod q r (size s) hr).2]

theorem mul_add_lt_mul {v q r S : Nat} (hq : q < v) (hr : r < S) : q * S + r < v * S :=
  calc q * S + r < (q + 1) * S := by rw [Nat.add_mul, Nat.one_mul]; omega
    _ ≤ v * S := Nat.mul_le_mul_right _ hq

/-- Below `S * v` every number is `q * v + r` with `q < S`, `r < v`: with `v = size s` these are the positions of
    `S :: s` (row-major), with `S = size s` those of `v :: s` read last axis first. -/
theorem exists_eq_mul_add {S v j : Nat} (h : j < S * v) : ∃ q r, q < S ∧ r < v ∧ j = q * v + r :=
  ⟨j / v, j % v, Nat.div_lt_of_lt_mul (Nat.mul_comm S v ▸ h), Nat.mod_lt _ (Nat.pos_of_lt_mul_left h),
    (Nat.div_add_mod' j v).symm⟩

theorem lt_size_induction {motive : ∀ s i, i < size s → Prop} (nil : motive [] 0 Nat.one_pos)
    (cons : ∀ v s q r (hq : q < v) (hr : r < size s), motive s r hr →
      motive (v :: s) (q * size s + r) (mul_add_lt_mul hq hr)) :
    ∀ s i h, motive s i h
  | [], i, h => by cases (Nat.lt_one_iff.1 h : i = 0); exact nil
  | v :: s, i, h => by
    obtain ⟨q, r, hq, hr, rfl⟩ := exists_eq_mul_add h
    exact cons v s q r hq hr (lt_size_induction nil cons s r hr)

theorem flat_lt : ∀ s idx, InB s idx → flat s idx < size s := by
  intro s idx h
  induction s, idx, h using InB.induction with
  | nil => exact Nat.one_pos
  | cons v s i idx hi _ ih => exact mul_add_lt_mul hi ih

theorem size_pos_of_inB : ∀ s idx, InB s idx → 0 < size s :=
  fun s idx h => Nat.zero_lt_of_lt (flat_lt s idx h)

theorem unflat_flat : ∀ s idx, InB s idx → unflat s (flat s idx) = idx := by
  intro s idx h
  induction s, idx, h using InB.induction with
  | nil => rfl
  | cons v s i idx _ h ih => rw [flat, unflat_cons_add v i (flat_lt s idx h), ih]

theorem flat_unflat : ∀ s i, i < size s → flat s (unflat s i) = i := by
  intro s i h
  induction s, i, h using lt_size_induction with
  | nil => rfl
  | cons v s q r _ hr ih => rw [unflat_cons_add v q hr, flat, ih]

theorem unflat_inB : ∀ s i, i < size s → InB s (unflat s i) := by
  intro s i h
  induction s, i, h using lt_size_induction with
  | nil => trivial
  | cons v s q r hq hr ih => rw [unflat_cons_add v q hr]; exact ⟨hq, ih⟩

theorem unflat_length : ∀ (s : List Nat) (i : Nat), (unflat s i).length = s.length
  | [], _ => rfl
  | _ :: s, i => by rw [unflat, List.length_cons, List.length_cons, unflat_length s]

theorem unflat_eq_iff (s idx : List Nat) (hidx : InB s idx) (t : Nat) (ht : t < size s) :
    idx = unflat s t ↔ t = flat s idx :=
  ⟨fun h => by rw [h, flat_unflat s t ht], fun h => by rw [h, unflat_flat s idx hidx]⟩

theorem unflat_inj (s : List Nat) (i j : Nat) (hi : i < size s) (hj : j < size s)
    (h : unflat s i = unflat s j) : i = j := by
  rw [← flat_unflat s i hi, h, flat_unflat s j hj]

theorem flat_inj (s a b : List Nat) (ha : InB s a) (hb : InB s b) (h : flat s a = flat s b) : a = b := by
  rw [← unflat_flat s a ha, ← unflat_flat s b hb, h]

theorem unflat_zero : ∀ s, unflat s 0 = List.replicate s.length 0
  | [] => rfl
  | _ :: s => by simp [unflat, unflat_zero s, List.replicate_succ]

theorem unflat_zero_map (s : List Nat) : unflat s 0 = s.map (fun _ => 0) := by
  rw [unflat_zero, List.map_const']

theorem incr_unflat : ∀ s i, i < size s →
    incr s (unflat s i) = if i + 1 < size s then some (unflat s (i + 1)) else none := by
  intro s i h
  induction s, i, h using lt_size_induction with
  | nil => rfl
  | cons v s q r hq hr ih =>
    rw [unflat_cons_add v q hr, incr, ih, size]
    by_cases hc : r + 1 < size s
    · rw [if_pos hc, Nat.add_assoc, if_pos (mul_add_lt_mul hq hc), unflat_cons_add v q hc]
    · -- carry: the next position is `(q + 1) * size s + 0`
      have hS : r + 1 = size s := by omega
      have e : q * size s + r + 1 = (q + 1) * size s + 0 := by rw [Nat.add_assoc, hS, Nat.succ_mul]; rfl
      have e3 : (q + 1) * size s + 0 < v * size s ↔ q + 1 < v := Nat.mul_lt_mul_right (hS ▸ Nat.succ_pos r)
      rw [if_neg hc, e, unflat_cons_add v (q + 1) (hS ▸ Nat.succ_pos r), unflat_zero]
      simp only [e3]

/-! The mirror facts come in additive form first; the forms with truncated subtraction are their corollaries. -/

theorem flat_add_mirror (s idx : List Nat) (h : InB s idx) : flat s idx + flat s (mirror s idx) + 1 = size s := by
  induction s, idx, h using InB.induction with
  | nil => rfl
  | cons v s i idx hi h ih =>
    calc i * size s + flat s idx + ((v - 1 - i) * size s + flat s (mirror s idx)) + 1
        = (i + (v - 1 - i)) * size s + (flat s idx + flat s (mirror s idx) + 1) := by rw [Nat.add_mul]; omega
      _ = (v - 1) * size s + size s := by rw [ih, Nat.add_sub_cancel' (Nat.le_sub_one_of_lt hi)]
      _ = v * size s := by rw [← Nat.succ_mul, Nat.succ_eq_add_one, Nat.sub_add_cancel (Nat.zero_lt_of_lt hi)]

theorem flat_mirror : ∀ s idx, InB s idx → flat s (mirror s idx) = size s - 1 - flat s idx := by
  intro s idx h
  have := flat_add_mirror s idx h
  omega

theorem sum_add_mirror (s idx : List Nat) (h : InB s idx) : (mirror s idx).sum + idx.sum + s.length = s.sum := by
  induction s, idx, h using InB.induction with
  | nil => rfl
  | cons v s i idx hi h ih => simp only [mirror, List.sum_cons, List.length_cons]; omega

theorem len_le_sum : ∀ s idx, InB s idx → s.length ≤ s.sum := by
  intro s idx h
  have := sum_add_mirror s idx h
  omega

theorem sum_mirror : ∀ s idx, InB s idx → (mirror s idx).sum + idx.sum = s.sum - s.length := by
  intro s idx h
  have := sum_add_mirror s idx h
  omega

theorem mirror_inB : ∀ s idx, InB s idx → InB s (mirror s idx) := by
  intro s idx h
  induction s, idx, h using InB.induction with
  | nil => trivial
  | cons v s i idx hi _ ih => exact ⟨by omega, ih⟩

theorem rev_eq_flat_mirror (s : List Nat) (i : Nat) (h : i < size s) :
    size s - 1 - i = flat s (mirror s (unflat s i)) := by
  rw [flat_mirror s _ (unflat_inB s i h), flat_unflat s i h]

theorem unflat_rev (s : List Nat) (i : Nat) (h : i < size s) :
    unflat s (size s - 1 - i) = mirror s (unflat s i) := by
  rw [rev_eq_flat_mirror s i h, unflat_flat s _ (mirror_inB s _ (unflat_inB s i h))]

theorem mirror_zero : ∀ s : List Nat, mirror s (List.replicate s.length 0) = s.map (· - 1)
  | [] => rfl
  | v :: s => by rw [List.length_cons, List.replicate_succ, mirror, mirror_zero s, Nat.sub_zero, List.map_cons]

theorem unflat_last (s : List Nat) (h : 0 < size s) : unflat s (size s - 1) = s.map (· - 1) := by
  have := unflat_rev s 0 h
  rwa [Nat.sub_zero, unflat_zero, mirror_zero] at this

theorem pred_inB (s : List Nat) (h : 0 < size s) : InB s (s.map (· - 1)) :=
  unflat_last s h ▸ unflat_inB s _ (Nat.sub_lt h Nat.one_pos)

theorem flat_pred (s : List Nat) (h : 0 < size s) : flat s (s.map (· - 1)) = size s - 1 := by
  rw [← unflat_last s h, flat_unflat s _ (Nat.sub_lt h Nat.one_pos)]

/-- the interior positions are the cells other than the all-zero and the all-maximal index -/
theorem interior_flat_iff (s k : List Nat) (hk : InB s k) :
    0 < flat s k ∧ flat s k + 1 < size s ↔ k ≠ s.map (fun _ => 0) ∧ k ≠ s.map (· - 1) := by
  have hpos := size_pos_of_inB _ _ hk
  have hlt := flat_lt _ _ hk
  have e1 : k = s.map (fun _ => 0) ↔ 0 = flat s k := by rw [← unflat_zero_map, unflat_eq_iff _ _ hk 0 hpos]
  have e2 : k = s.map (· - 1) ↔ size s - 1 = flat s k := by
    rw [← unflat_last _ hpos, unflat_eq_iff _ _ hk _ (Nat.sub_one_lt (Nat.ne_of_gt hpos))]
  rw [Ne, Ne, e1, e2]
  omega

/-! One and two axes: position `i * c + j` of `[r, c]` is cell `[i, j]`. -/

theorem size_single (n : Nat) : size [n] = n := Nat.mul_one n

theorem flat_single (n k : Nat) : flat [n] [k] = k := by simp only [flat, size, Nat.mul_one, Nat.add_zero]

theorem size_pair (r c : Nat) : size [r, c] = r * c := by simp only [size, Nat.mul_one]

theorem flat_pair (r c i j : Nat) : flat [r, c] [i, j] = i * c + j := by
  simp only [flat, size, Nat.mul_one, Nat.add_zero]

theorem unflat_pair (r c i j : Nat) (hj : j < c) : unflat [r, c] (i * c + j) = [i, j] := by
  have d := mul_add_div_mod i j c hj
  simp only [unflat, size, Nat.mul_one, Nat.div_one, d.1, d.2]

theorem strides_length : ∀ s, (strides s).length = s.length
  | [] => rfl
  | _ :: s => by simp [strides, strides_length s]

/-- The stride dot product is the row-major position (no bounds needed). -/
theorem dot_strides : ∀ s idx, dot (strides s) idx = flat s idx
  | [], _ => rfl
  | _ :: _, [] => rfl
  | v :: s, i :: idx => by rw [strides, dot, flat, dot_strides s idx, Nat.mul_comm]

theorem flatIndex_eq (s idx : List Nat) :
    flatIndex s idx = if InB s idx then some (flat s idx) else none := by
  simp only [flatIndex, strides_length, dot_strides, true_and, InB_iff_inBounds]
  split <;> simp [*]

theorem flatIndex_eq_some_iff (shape c : List Nat) (f : Nat) :
    flatIndex shape c = some f ↔ InB shape c ∧ flat shape c = f := by
  rw [flatIndex_eq]
  by_cases hin : InB shape c <;> simp [hin]

theorem dot_eq_sum_zipWith : ∀ a b, dot a b = (List.zipWith (· * ·) a b).sum
  | [], _ => by simp [dot]
  | _ :: _, [] => by simp [dot]
  | x :: a, y :: b => by simp [dot, dot_eq_sum_zipWith a b]

theorem dot_comm (a b : List Nat) : dot a b = dot b a := by
  rw [dot_eq_sum_zipWith, dot_eq_sum_zipWith, List.zipWith_comm_of_comm Nat.mul_comm]

theorem dot_reverse (a b : List Nat) (h : a.length = b.length) : dot a.reverse b.reverse = dot a b := by
  rw [dot_eq_sum_zipWith, dot_eq_sum_zipWith, ← List.reverse_zipWith h, List.sum_reverse_nat]

theorem dot_replicate_zero : ∀ (n : Nat) (b : List Nat), dot (List.replicate n 0) b = 0
  | 0, b => by simp [dot]
  | n + 1, [] => by simp [dot]
  | n + 1, y :: b => by simp [List.replicate_succ, dot, dot_replicate_zero n b]

/-- On a shape without zero-length axis the running quotient is `size` of the remaining axes, so the loop of
    `index_from_flat_unchecked` is `unflat` at every position (in range or not). -/
theorem unflatLoop_size : ∀ s f, 0 < size s → unflatLoop (size s) f s = unflat s f
  | [], _, _ => rfl
  | v :: s, f, h => by
    simp only [unflatLoop, unflat, size, Nat.mul_div_cancel_left _ (Nat.pos_of_mul_pos_right h),
      unflatLoop_size s _ (Nat.pos_of_mul_pos_left h)]

theorem unflatLoop_length : ∀ (n f : Nat) (s : List Nat), (unflatLoop n f s).length = s.length
  | _, _, [] => rfl
  | n, f, v :: s => by simp [unflatLoop, unflatLoop_length _ _ s]

theorem indexFromFlat_eq (s : List Nat) (i : Nat) (h : i < size s) : indexFromFlat s i = unflat s i :=
  unflatLoop_size s i (Nat.zero_lt_of_lt h)

theorem indexSumLoop_eq_sum : ∀ n f s, indexSumLoop n f s = (unflatLoop n f s).sum
  | _, _, [] => rfl
  | n, f, v :: s => by simp [indexSumLoop, unflatLoop, indexSumLoop_eq_sum _ _ s]

theorem indexSumFromFlat_eq_sum (shape : List Nat) (i : Nat) (h : i < size shape) :
    indexSumFromFlat shape i = (unflat shape i).sum := by
  rw [← indexFromFlat_eq shape i h]
  exact indexSumLoop_eq_sum _ _ _

theorem removeAt_eq_eraseIdx {α} (l : List α) (a : Nat) : removeAt l a = l.eraseIdx a :=
  (List.eraseIdx_eq_take_drop_succ l a).symm

theorem removeAt_zero {α} (x : α) (l : List α) : removeAt (x :: l) 0 = l := by simp [removeAt]

theorem removeAt_succ {α} (x : α) (l : List α) (a : Nat) :
    removeAt (x :: l) (a + 1) = x :: removeAt l a := by simp [removeAt]

theorem insertAt_zero {α} (l : List α) (x : α) : insertAt l 0 x = x :: l := by simp [insertAt]

theorem insertAt_succ {α} (y : α) (l : List α) (a : Nat) (x : α) :
    insertAt (y :: l) (a + 1) x = y :: insertAt l a x := by simp [insertAt]

theorem removeAt_length {α} (l : List α) (a : Nat) (h : a < l.length) :
    (removeAt l a).length = l.length - 1 := by
  rw [removeAt_eq_eraseIdx, List.length_eraseIdx_of_lt h]

theorem insertAt_length {α} (l : List α) (a : Nat) (x : α) :
    (insertAt l a x).length = l.length + 1 := by
  rw [insertAt, List.length_append, List.length_cons, ← Nat.add_assoc, ← List.length_append, List.take_append_drop]

/-- Offset of an axis view plus the view-internal stride dot product is the row-major position
    of the full index with `i` inserted at `axis`. -/
theorem flat_insertAt : ∀ (s : List Nat) (axis : Nat) (k : List Nat) (i : Nat), axis < s.length →
    InB (removeAt s axis) k →
    i * (strides s).getD axis 0 + dot (removeAt (strides s) axis) k = flat s (insertAt k axis i)
  | [], _, _, _, h, _ => absurd h (Nat.not_lt_zero _)
  | v :: s, 0, k, i, _, _ => by
    rw [insertAt_zero, flat, ← dot_strides s k]; rfl
  | _ :: _, _ + 1, [], _, _, hk => hk.elim
  | v :: s, a + 1, k0 :: k, i, h, hk => by
    rw [insertAt_succ, flat, ← flat_insertAt s a k i (Nat.lt_of_succ_lt_succ h) hk.2, Nat.mul_comm k0,
      Nat.add_left_comm]
    rfl

-- `removeAt` and `insertAt` compute on `_ :: _` at `0` and `_ + 1` (the four equations above), so the hypotheses
-- below already have the shape `InB` unfolds to.
theorem insertAt_inB : ∀ (s : List Nat) (axis : Nat) (k : List Nat) (i : Nat), axis < s.length →
    i < s.getD axis 0 → InB (removeAt s axis) k → InB s (insertAt k axis i)
  | [], _, _, _, h, _, _ => absurd h (Nat.not_lt_zero _)
  | _ :: _, 0, _, _, _, hi, hk => ⟨hi, hk⟩
  | _ :: _, _ + 1, [], _, _, _, hk => hk.elim
  | _ :: s, a + 1, _ :: k, i, h, hi, hk => ⟨hk.1, insertAt_inB s a k i (Nat.lt_of_succ_lt_succ h) hi hk.2⟩

theorem removeAt_inB : ∀ (s idx : List Nat) (x : Nat), InB s idx → InB (removeAt s x) (removeAt idx x)
  | [], [], _, _ => by simp [removeAt, InB]
  | _ :: _, _ :: _, 0, h => h.2
  | _ :: s, _ :: idx, x + 1, h => ⟨h.1, removeAt_inB s idx x h.2⟩
  | [], _ :: _, _, h => h.elim
  | _ :: _, [], _, h => h.elim

/-! `insertAt · x i` and `(removeAt · x, getD · x)` are inverse to each other -/

theorem removeAt_insertAt {β} : ∀ (k : List β) (x : Nat) (i : β), x ≤ k.length →
    removeAt (insertAt k x i) x = k
  | k, 0, i, _ => by rw [insertAt_zero, removeAt_zero]
  | [], x + 1, i, h => absurd h (Nat.not_succ_le_zero x)
  | y :: k, x + 1, i, h => by
    rw [insertAt_succ, removeAt_succ, removeAt_insertAt k x i (Nat.le_of_succ_le_succ h)]

theorem getD_insertAt {β} : ∀ (k : List β) (x : Nat) (i d : β), x ≤ k.length →
    (insertAt k x i).getD x d = i
  | k, 0, i, d, _ => by rw [insertAt_zero]; rfl
  | [], x + 1, i, d, h => absurd h (Nat.not_succ_le_zero x)
  | y :: k, x + 1, i, d, h => by
    rw [insertAt_succ, List.getD_cons_succ, getD_insertAt k x i d (Nat.le_of_succ_le_succ h)]

theorem insertAt_removeAt {β} : ∀ (l : List β) (x : Nat) (d : β), x < l.length →
    insertAt (removeAt l x) x (l.getD x d) = l
  | [], x, d, h => absurd h (Nat.not_lt_zero x)
  | y :: l, 0, d, _ => by rw [removeAt_zero, insertAt_zero]; rfl
  | y :: l, x + 1, d, h => by
    rw [removeAt_succ, insertAt_succ, List.getD_cons_succ, insertAt_removeAt l x d (Nat.lt_of_succ_lt_succ h)]

/-! `Shape::checked_elements`: the fold of `nzStep` is the product of the non-zero lengths, as long as it fits -/

/-- product of the non-zero lengths. -/
def nzSize (s : List Nat) : Nat := size (s.map (fun v => max v 1))

theorem nzSize_cons (v : Nat) (s : List Nat) : nzSize (v :: s) = max v 1 * nzSize s := rfl

theorem nzSize_pos (s : List Nat) : 0 < nzSize s := by
  induction s with
  | nil => simp [nzSize, size]
  | cons v s ih => rw [nzSize_cons]; exact Nat.mul_pos (by omega) ih

theorem size_le_nzSize (s : List Nat) : size s ≤ nzSize s := by
  induction s with
  | nil => simp [nzSize]
  | cons v s ih => rw [nzSize_cons, size]; exact Nat.mul_le_mul (by omega) ih

theorem nzStep_foldl_none (s : List Nat) : s.foldl nzStep none = none := by
  induction s with
  | nil => rfl
  | cons v s ih => simpa [nzStep] using ih

/-- the fold succeeds iff the product of the non-zero lengths (times the start value) fits. -/
theorem nzStep_foldl (s : List Nat) (a : Nat) (ha : 0 < a) (hlt : a < 2 ^ 64) :
    s.foldl nzStep (some a) = if a * nzSize s < 2 ^ 64 then some (a * nzSize s) else none := by
  induction s generalizing a with
  | nil => simp [nzSize, size, hlt]
  | cons v s ih =>
    rw [nzSize_cons, ← Nat.mul_assoc]
    by_cases hav : a * max v 1 < 2 ^ 64
    · have hstep : nzStep (some a) v = some (a * max v 1) := by simp [nzStep, hav]
      rw [List.foldl_cons, hstep, ih _ (Nat.mul_pos ha (by omega)) hav]
    · have hstep : nzStep (some a) v = none := by simp [nzStep, hav]
      have hle : a * max v 1 ≤ a * max v 1 * nzSize s := Nat.le_mul_of_pos_right _ (nzSize_pos s)
      rw [List.foldl_cons, hstep, nzStep_foldl_none, if_neg (by omega)]

theorem checkedSize_eq (s : List Nat) : checkedSize s = if nzSize s < 2 ^ 64 then some (size s) else none := by
  unfold checkedSize
  rw [nzStep_foldl s 1 (by decide) (by decide), Nat.one_mul]
  by_cases h : nzSize s < 2 ^ 64
  · simp only [h, if_true]
  · simp only [h, if_false]

theorem size_pos_of_pos (s : List Nat) (hs : ∀ v ∈ s, 0 < v) : 0 < size s :=
  size_pos_iff.2 hs

theorem nzSize_of_pos (s : List Nat) (hpos : ∀ v ∈ s, 0 < v) : nzSize s = size s := by
  induction s with
  | nil => rfl
  | cons v s ih =>
    have hv : 0 < v := hpos v (by simp)
    rw [nzSize_cons, size, ih (fun w hw => hpos w (by simp [hw])), Nat.max_eq_left hv]

theorem checkedSize_of_pos (s : List Nat) (hpos : ∀ v ∈ s, 0 < v) (hlt : size s < 2 ^ 64) :
    checkedSize s = some (size s) := by
  rw [checkedSize_eq, nzSize_of_pos s hpos, if_pos hlt]

theorem checkedSize_eq_some (s : List Nat) (n : Nat) (h : checkedSize s = some n) : nzSize s < 2 ^ 64 ∧ n = size s := by
  rw [checkedSize_eq] at h
  split at h
  · exact ⟨‹_›, (Option.some.inj h).symm⟩
  · cases h

theorem checkedSize_lt (s : List Nat) (n : Nat) (h : checkedSize s = some n) : n < 2 ^ 64 :=
  (checkedSize_eq_some s n h).2 ▸ Nat.lt_of_le_of_lt (size_le_nzSize s) (checkedSize_eq_some s n h).1

theorem checkedSize_none_of_nz (s : List Nat) (h : 2 ^ 64 ≤ nzSize s) : checkedSize s = none := by
  rw [checkedSize_eq, if_neg (by omega)]

theorem checkedSize_none_of_le (s : List Nat) (h : 2 ^ 64 ≤ size s) : checkedSize s = none :=
  checkedSize_none_of_nz s (Nat.le_trans h (size_le_nzSize s))

end Sfs
