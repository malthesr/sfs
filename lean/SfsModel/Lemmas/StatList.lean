/-
`withIdx` (`enumerate`) and `interior` (`take(len - 1).skip(1)`) as maps over `List.range`; the nested enumeration of
rows and columns as one pass over the flat positions (`flatMap_range`).
-/
import SfsModel.Model.Stat
import SfsModel.Lemmas.Index
namespace Sfs

theorem withIdx_eq {β} (d : β) (l : List β) : withIdx l = (List.range l.length).map (fun i => (i, l.getD i d)) := by
  apply List.ext_getElem
  · simp [withIdx]
  · intro i h1 _
    simp only [withIdx, List.length_zip, List.length_range, Nat.min_self] at h1
    simp [withIdx, List.getD_eq_getElem?_getD, h1]

theorem interior_map {β γ} (f : β → γ) (l : List β) : interior (l.map f) = (interior l).map f := by
  simp [interior, List.map_take]

theorem take_drop_eq_interior {β} {l : List β} {n : Nat} (h : l.length = n) : (l.take (n - 1)).drop 1 = interior l := by
  rw [interior, h]

theorem interior_range (n : Nat) : interior (List.range n) = List.range' 1 (n - 2) := by
  rw [interior, List.length_range, List.take_range, List.range_eq_range', List.drop_range',
    Nat.min_eq_left (Nat.sub_le n 1), Nat.sub_sub]

theorem interior_eq {β} (d : β) (l : List β) : interior l = (List.range' 1 (l.length - 2)).map (fun i => l.getD i d) := by
  rw [congrArg interior (list_eq_map_getD d l), interior_map, interior_range]

theorem interior_withIdx {β} (d : β) (l : List β) :
    interior (withIdx l) = (List.range' 1 (l.length - 2)).map (fun i => (i, l.getD i d)) := by
  rw [withIdx_eq d, interior_map, interior_range]

theorem flatMap_range {β : Type} (f : Nat → Nat → β) (r c : Nat) :
    (List.range r).flatMap (fun i => (List.range c).map (f i)) = (List.range (r * c)).map (fun k => f (k / c) (k % c)) := by
  induction r with
  | zero => simp
  | succ r ih =>
    rw [List.range_succ, List.flatMap_append, ih, Nat.succ_mul, List.range_add, List.map_append]
    congr 1
    simp only [List.flatMap_cons, List.flatMap_nil, List.append_nil, List.map_map]
    refine List.map_congr_left fun j hj => ?_
    have d := mul_add_div_mod r j c (List.mem_range.mp hj)
    rw [Function.comp, d.1, d.2]

theorem binom2_eq (n : Nat) : binom2 n = n * (n - 1) / 2 := by
  unfold binom2
  split
  · rcases (by omega : n = 0 ∨ n = 1) with rfl | rfl <;> rfl
  · rfl

theorem getD_succ_pred (ns : List Nat) (j : Nat) : (ns.map (· + 1)).getD j 0 - 1 = ns.getD j 0 := by
  simp only [List.getD_eq_getElem?_getD, List.getElem?_map]
  cases ns[j]? <;> rfl

theorem exists_shape_pair {α} (a : Arr α) (hl : a.data.length = size a.shape) (hv : ∀ v ∈ a.shape, 2 ≤ v)
    (h2 : a.shape.length = 2) : ∃ r c, a.shape = [r, c] ∧ a.data.length = r * c ∧ 2 ≤ r ∧ 2 ≤ c := by
  obtain ⟨data, shape⟩ := a
  match shape, h2 with
  | [r, c], _ => exact ⟨r, c, rfl, hl.trans (size_pair r c), hv r (by simp), hv c (by simp)⟩

end Sfs
