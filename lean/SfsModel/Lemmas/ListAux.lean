/-
Facts about core `List`, and a few about numbers and characters, that several regions need and core does not state.
No import: every lemma file may use it.
-/
namespace Sfs

theorem list_eq_map_getD {α} (d : α) (x : List α) : x = (List.range x.length).map (fun i => x.getD i d) := by
  apply List.ext_getElem
  · simp
  · intro i h1 _
    simp [List.getD_eq_getElem?_getD, List.getElem?_eq_getElem h1]

theorem getD_range_map {α} (d : α) (n : Nat) (g : Nat → α) (i : Nat) :
    ((List.range n).map g).getD i d = if i < n then g i else d := by
  rw [List.getD_eq_getElem?_getD, List.getElem?_map]
  by_cases h : i < n
  · rw [List.getElem?_range h, if_pos h]; rfl
  · rw [List.getElem?_eq_none (by simpa using h), if_neg h]; rfl

theorem getD_map {α β} (f : α → β) (l : List α) (i : Nat) {d : α} {d' : β} (h : f d = d') :
    (l.map f).getD i d' = f (l.getD i d) := by
  subst h
  rw [List.getD_eq_getElem?_getD, List.getD_eq_getElem?_getD, List.getElem?_map]
  cases l[i]? <;> rfl

theorem getD_map_of_lt {α β} (f : α → β) (l : List α) {i : Nat} (h : i < l.length) (d : α) (d' : β) :
    (l.map f).getD i d' = f (l.getD i d) := by
  rw [List.getD_eq_getElem?_getD, List.getD_eq_getElem?_getD, List.getElem?_map, List.getElem?_eq_getElem h]
  rfl

/-- `some` stripped from both sides. -/
theorem eq_map_getD_of_map_some {α β} (d : α) {l : List α} {m : List β} {g : β → Option α}
    (h : l.map some = m.map g) : l = m.map fun t => (g t).getD d := by
  have := congrArg (List.map fun o : Option α => o.getD d) h
  rw [List.map_map, List.map_map] at this
  exact (List.map_id' l).symm.trans this

theorem reverse_getD {α} (d : α) (x : List α) (i : Nat) (h : i < x.length) :
    x.reverse.getD i d = x.getD (x.length - 1 - i) d := by
  simp [List.getD_eq_getElem?_getD, List.getElem?_reverse h]

theorem filterMap_eq_map_of_some {α β} (f : α → Option β) (g : α → β) : ∀ (l : List α),
    (∀ x ∈ l, f x = some (g x)) → l.filterMap f = l.map g
  | [], _ => rfl
  | x :: l, h => by
    have ih := filterMap_eq_map_of_some f g l (fun y hy => h y (by simp [hy]))
    simp [h x (by simp), ih]

/-- Each of the model's splitters (`splitAll`, `splitGT`, `splitBytes`, `splitOnChar`) is this recursion, which is
    the one core's `List.splitOnP` obeys: one bridge per splitter, and core's `splitOn` lemmas apply. -/
theorem eq_splitOnP {α} (p : α → Bool) (f : List α → List (List α)) (h0 : f [] = [[]])
    (h1 : ∀ x xs cur rest, f xs = cur :: rest →
      f (x :: xs) = if p x then [] :: cur :: rest else (x :: cur) :: rest) :
    ∀ l, f l = l.splitOnP p
  | [] => h0
  | x :: xs => by
    obtain ⟨c, r, h⟩ := List.exists_cons_of_ne_nil (List.splitOnP_ne_nil p xs)
    rw [h1 x xs c r (by rw [eq_splitOnP p f h0 h1 xs, h]), List.splitOnP_cons_eq_if_modifyHead, h]
    rfl

theorem intercalate_snoc {α} (sep : List α) (init : List (List α)) (last : List α) :
    sep.intercalate (init ++ [last]) = (init.map (· ++ sep)).flatten ++ last := by
  induction init with
  | nil => simp
  | cons t rest ih => cases rest <;> simp_all

theorem intercalate_append_sep {α} (sep : List α) (items : List (List α)) (hne : items ≠ []) :
    sep.intercalate items ++ sep = sep.intercalate (items ++ [[]]) := by
  rw [intercalate_snoc, List.append_nil, ← List.dropLast_concat_getLast hne, intercalate_snoc]
  simp

theorem takeWhile_append_stop {α} (p : α → Bool) : ∀ (l r : List α), (∀ x ∈ l, p x = true) →
    (∀ x, r.head? = some x → p x = false) → (l ++ r).takeWhile p = l ∧ (l ++ r).dropWhile p = r
  | l, r, hl, hr => by
    rw [List.takeWhile_append_of_pos hl, List.dropWhile_append_of_pos hl]
    cases r with
    | nil => simp
    | cons x r => simp [hr x rfl]

/-- the list does not start with a character satisfying `p` (the side condition of `takeWhile_append_stop`). -/
def HeadNot (p : Char → Bool) (l : List Char) : Prop := ∀ c, l.head? = some c → p c = false

theorem headNot_nil (p : Char → Bool) : HeadNot p [] := by simp [HeadNot]

theorem headNot_cons {p : Char → Bool} {c : Char} {l : List Char} : HeadNot p (c :: l) ↔ p c = false := by
  simp [HeadNot]


theorem mapM_map_some {α β γ} (t : α → β) (f : β → Option γ) (g : α → γ) (l : List α)
    (h : ∀ x ∈ l, f (t x) = some (g x)) : (l.map t).mapM f = some (l.map g) := by
  induction l with
  | nil => rfl
  | cons a rest ih =>
    simp only [List.map_cons, List.mapM_cons, h a (by simp), ih (fun x hx => h x (by simp [hx]))]
    rfl

theorem mapM_option_length {α β} (f : α → Option β) : ∀ (l : List α) (r : List β), l.mapM f = some r → r.length = l.length
  | [], r, h => by cases h; rfl
  | a :: l, r, h => by
    rw [List.mapM_cons] at h
    obtain ⟨b, -, h⟩ := Option.bind_eq_some_iff.1 h
    obtain ⟨r', hr', h⟩ := Option.bind_eq_some_iff.1 h
    cases h
    rw [List.length_cons, List.length_cons, mapM_option_length f l r' hr']

theorem mapM_eq_none {β γ} (f : β → Option γ) {l : List β} {x : β} (hx : x ∈ l) (h : f x = none) :
    l.mapM f = none := by
  induction l with
  | nil => cases hx
  | cons b rest ih =>
    rw [List.mapM_cons]
    rcases List.mem_cons.1 hx with rfl | hx
    · rw [h]; rfl
    · rw [ih hx]; cases f b <;> rfl

theorem getD_replicate {α} (d : α) (n i : Nat) : (List.replicate n d).getD i d = d := by
  rw [List.getD_eq_getElem?_getD, List.getElem?_replicate]
  split <;> rfl

theorem set_range_map {α} (n : Nat) (g : Nat → α) (i : Nat) (v : α) :
    ((List.range n).map g).set i v = (List.range n).map fun j => if i = j then v else g j := by
  apply List.ext_getElem
  · simp
  · intro j _ _
    simp [List.getElem_set]

theorem snoc_induction {α} {P : List α → Prop} (nil : P []) (snoc : ∀ l a, P l → P (l ++ [a])) : ∀ l, P l := by
  intro l
  rw [← List.reverse_reverse l]
  induction l.reverse with
  | nil => exact nil
  | cons a t ih => rw [List.reverse_cons]; exact snoc _ _ ih

theorem idxOf_snoc {κ} [DecidableEq κ] (l : List κ) (a x : κ) (hx : x ∈ l ++ [a]) :
    (l ++ [a]).idxOf x = if x ∈ l then l.idxOf x else l.length := by
  rw [List.idxOf_append]
  split
  · rfl
  · rename_i h
    rw [List.mem_singleton.1 ((List.mem_append.1 hx).resolve_left h)]
    simp

theorem idxOf_inj_of_mem {κ} [DecidableEq κ] (D : List κ) (x y : κ) (hx : x ∈ D)
    (h : D.idxOf x = D.idxOf y) : x = y := by
  have h1 : D.idxOf x < D.length := List.idxOf_lt_length_of_mem hx
  have h2 : D.idxOf y < D.length := h ▸ h1
  rw [← List.getElem_idxOf h1, ← List.getElem_idxOf h2]
  simp only [h]

theorem idxOf_eq_iff {κ} [DecidableEq κ] {D : List κ} (h : D.Nodup) {x : κ} (hx : x ∈ D) {i : Nat} (hi : i < D.length) :
    D.idxOf x = i ↔ x = D[i] := by
  constructor
  · rintro rfl; exact (List.getElem_idxOf _).symm
  · rintro rfl; exact h.idxOf_getElem i hi

theorem map_idxOf_self {κ} [DecidableEq κ] {D : List κ} (h : D.Nodup) : D.map D.idxOf = List.range D.length := by
  apply List.ext_getElem (by simp)
  intro i h1 _
  simp [h.idxOf_getElem i (by simpa using h1)]

theorem lookup_eq_none_iff_not_key {κ ν} [DecidableEq κ] (m : List (κ × ν)) (k : κ) :
    m.lookup k = none ↔ k ∉ m.map (·.1) := by
  rw [List.lookup_eq_none_iff, List.mem_map]
  constructor
  · rintro h ⟨p, hp, rfl⟩
    exact absurd rfl (bne_iff_ne.1 (h p hp))
  · exact fun h p hp => bne_iff_ne.2 fun e => h ⟨p, hp, e.symm⟩

theorem lookup_map_snd {κ ν} [DecidableEq κ] (f : κ → ν → ν) (s : κ) : ∀ m : List (κ × ν),
    (m.map fun p => (p.1, f p.1 p.2)).lookup s = (m.lookup s).map (f s)
  | [] => rfl
  | (k, v) :: m => by
    rw [List.map_cons, List.lookup_cons, List.lookup_cons, lookup_map_snd f s m]
    by_cases h : s = k
    · subst h; simp
    · rw [beq_eq_false_iff_ne.2 h]

theorem count_filterMap {β γ} [BEq γ] [LawfulBEq γ] [DecidableEq γ] (g : β → Option γ) (k : γ) (l : List β) :
    (l.filterMap g).count k = (l.filter (fun r => decide (g r = some k))).length := by
  rw [List.count, List.countP_filterMap, ← List.countP_eq_length_filter]
  apply List.countP_congr
  intro r _
  cases h : g r <;> simp

theorem map_add_getD {α} [Add α] [Zero α] (S : Nat) (g h : Nat → α) :
    ((List.range S).map fun f => g f + ((List.range S).map h).getD f 0) = (List.range S).map fun f => g f + h f := by
  apply List.map_congr_left
  intro f hf
  rw [getD_range_map, if_pos (List.mem_range.mp hf)]

theorem mapM_except_ok_mem {β γ ε : Type} (f : β → Except ε γ) :
    ∀ (l : List β) (vs : List γ), l.mapM f = .ok vs → ∀ b ∈ l, ∃ v, f b = .ok v
  | [], _, _ => by simp
  | b :: l, vs, h => by
    cases hb : f b with
    | error e => simp [hb, bind, Except.bind] at h
    | ok v =>
      cases hl : l.mapM f with
      | error e => simp [hb, hl, bind, Except.bind] at h
      | ok vs' =>
        intro b' hb'
        rcases List.mem_cons.mp hb' with rfl | hm
        · exact ⟨v, hb⟩
        · exact mapM_except_ok_mem f l vs' hl b' hm

theorem mapM_except_map {β γ ε : Type} (f : β → Except ε γ) (g : β → γ) :
    ∀ (l : List β), (∀ b ∈ l, f b = .ok (g b)) → l.mapM f = .ok (l.map g)
  | [], _ => rfl
  | b :: l, h => by
    rw [List.mapM_cons, h b (by simp), mapM_except_map f g l (fun b' hb' => h b' (by simp [hb']))]
    rfl

theorem count_map_eq_length_filter {β γ} [BEq γ] [LawfulBEq γ] [DecidableEq γ] (g : β → γ) (k' : γ) (l : List β) :
    (l.map g).count k' = (l.filter (fun k => decide (g k = k'))).length := by
  rw [List.count_eq_countP, List.countP_map, List.countP_eq_length_filter]
  exact congrArg List.length (List.filter_congr fun b _ => by
    rw [Function.comp, Bool.eq_iff_iff, beq_iff_eq, decide_eq_true_iff])

/-- up to and including the first `c` (a line with its line feed, a field with its separator), or everything -/
theorem take_line {α} [DecidableEq α] (c : α) (l : List α) :
    l.take ((l.takeWhile (· ≠ c)).length + 1) =
      l.takeWhile (· ≠ c) ++ (if (l.takeWhile (· ≠ c)).length < l.length then [c] else []) := by
  induction l with
  | nil => rfl
  | cons x xs ih =>
    by_cases hx : x = c
    · subst hx; simp
    · have : (decide (x ≠ c)) = true := by simpa using hx
      rw [List.takeWhile_cons, if_pos this]
      simp only [List.length_cons, List.take_succ_cons, Nat.add_lt_add_iff_right, List.cons_append]
      rw [ih]

theorem takeWhile_drop_of_le {α} (p : α → Bool) (l : List α) (a : Nat) (h : a ≤ (l.takeWhile p).length) :
    (l.drop a).takeWhile p = (l.takeWhile p).drop a := by
  induction a generalizing l with
  | zero => rfl
  | succ a ih =>
    cases l with
    | nil => rfl
    | cons x xs =>
      rw [List.takeWhile_cons] at h ⊢
      split at h
      · rw [if_pos ‹_›]; exact ih xs (Nat.le_of_succ_le_succ h)
      · cases h

theorem drop_length_takeWhile {α} (p : α → Bool) (l : List α) : l.drop (l.takeWhile p).length = l.dropWhile p := by
  conv => lhs; arg 2; rw [← List.takeWhile_append_dropWhile (p := p) (l := l)]
  exact List.drop_left

/-- only byte 10 becomes a line feed (`Char.ofNat` sends what is no scalar value to NUL) -/
theorem char_ofNat_eq_lf (x : Nat) : Char.ofNat x = '\n' ↔ x = 10 := by
  refine ⟨fun h => ?_, fun h => h ▸ rfl⟩
  unfold Char.ofNat at h
  split at h
  · exact congrArg Char.toNat h
  · cases h

/-- pieces of one length `k`: the length of what `f` writes for `l`. -/
theorem length_flatMap_const {α β} (f : α → List β) (k : Nat) : ∀ l : List α, (∀ x ∈ l, (f x).length = k) →
    (l.flatMap f).length = k * l.length
  | [], _ => rfl
  | x :: l, h => by
    rw [List.flatMap_cons, List.length_append, h x List.mem_cons_self,
      length_flatMap_const f k l fun y hy => h y (List.mem_cons_of_mem _ hy), List.length_cons, Nat.mul_succ, Nat.add_comm]

/-- no piece empty: at least one element per item (so a fuel of the output's length suffices for a loop over the items). -/
theorem length_le_length_flatMap {α β} (f : α → List β) : ∀ l : List α, (∀ x ∈ l, f x ≠ []) →
    l.length ≤ (l.flatMap f).length
  | [], _ => Nat.le_refl _
  | x :: l, h => by
    rw [List.flatMap_cons, List.length_append, List.length_cons, Nat.add_comm]
    exact Nat.add_le_add (List.length_pos_iff.2 (h x List.mem_cons_self))
      (length_le_length_flatMap f l fun y hy => h y (List.mem_cons_of_mem _ hy))

theorem toDigits_isDigit (n : Nat) : ∀ c ∈ Nat.toDigits 10 n, c.isDigit = true :=
  fun _ hc => Nat.isDigit_of_mem_toDigits (by decide) (by decide) hc

/-- the two digits of `x · B + y` in base `B` (a flat position `q * S + r`, a bit field above another). -/
theorem mul_add_div_mod (x y B : Nat) (hy : y < B) : (x * B + y) / B = x ∧ (x * B + y) % B = y := by
  rw [Nat.mul_comm, Nat.mul_add_div (Nat.zero_lt_of_lt hy), Nat.mul_add_mod, Nat.div_eq_of_lt hy, Nat.mod_eq_of_lt hy]
  exact ⟨rfl, rfl⟩

theorem lf_comp_ofNat : ((· ≠ '\n') ∘ Char.ofNat : Nat → Bool) = (· ≠ 10) := by
  funext x; simp only [Function.comp, ne_eq, char_ofNat_eq_lf]

end Sfs
