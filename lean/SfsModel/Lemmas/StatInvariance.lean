/-
The weighted sums of `StatSum` under the operations of C14, one section each: the law of the sum under the operation
plus a symmetry of the weight. KING / R0 / R1 read single cells; they go together at the end, through `kinParts`.
-/
import SfsModel.Lemmas.Fold
import SfsModel.Lemmas.StatSum
namespace Sfs
open Finset Sfs.Spec

/-- The general invariance: a mirror-symmetric weight does not see the fold. -/
theorem sf_fold_weighted {α} [Field α] [CharZero α] (shape : List Nat) (x : List α) (W : Nat → α)
    (hW : ∀ i, i < size shape → W (size shape - 1 - i) = W i) :
    sf_wsum (size shape) (foldSpectrum (1/2 : α) 0 shape x) W = sf_wsum (size shape) x W :=
  sum_mul_of_pair_sums _ _ _ W hW (fold_pair shape x)

section
variable {α : Type} [Field α]

/-- `Spec.foldZero` writes the half as `1 / ((2 : Nat) : α)`, the lemmas of `Fold` as `(1/2 : α)`: this is the only
    bridge between the two spellings. -/
theorem foldZero_data (a : Arr α) : (foldZero a).data = foldSpectrum (1/2 : α) 0 a.shape a.data := by
  simp only [foldZero, Nat.cast_ofNat]

/-- `sf_fold_weighted` on `foldZero`, the form the statistics use -/
theorem wsum_foldZero [CharZero α] (a : Arr α) (W : Nat → α)
    (hW : ∀ i, i < size a.shape → W (size a.shape - 1 - i) = W i) :
    sf_wsum (size a.shape) (foldZero a).data W = sf_wsum (size a.shape) a.data W := by
  rw [foldZero_data]; exact sf_fold_weighted a.shape a.data W hW

theorem foldZero_length (a : Arr α) : (foldZero a).data.length = size a.shape := by
  rw [foldZero_data, foldSpectrum_length]

variable [CharZero α]

theorem sumList_foldZero (a : Arr α) (hlen : a.data.length = size a.shape) :
    sumList (foldZero a).data = sumList a.data := by
  rw [sumList_eq_wsum, sumList_eq_wsum, foldZero_length, hlen]
  exact wsum_foldZero a _ (fun _ _ => rfl)

/-- a `thetaEstimate` whose weight is symmetric in the class -/
theorem thetaEstimate_foldZero (w : Nat → Nat → α) (a : Arr α) (hlen : a.data.length = size a.shape)
    (hw : ∀ i, 0 < i → i + 1 < size a.shape → w (size a.shape - 1 - i) (size a.shape - 1) = w i (size a.shape - 1)) :
    thetaEstimate w (foldZero a).data = thetaEstimate w a.data := by
  rw [thetaEstimate_eq_wsum, thetaEstimate_eq_wsum, foldZero_length, hlen]
  exact wsum_foldZero a _ (onInterior_symm _ _ hw)

/-- a `freqSum` whose weight does not change when every frequency `f` is replaced by `1 - f` -/
theorem freqSum_foldZero (w : List α → α) (a : Arr α) (hlen : a.data.length = size a.shape)
    (hw : ∀ i, i < size a.shape → w (freqs a.shape (size a.shape - 1 - i)) = w (freqs a.shape i)) :
    freqSum w (normalized (foldZero a)) = freqSum w (normalized a) := by
  rw [freqSum_normalized, freqSum_normalized, sumList_foldZero a hlen, foldZero_length, hlen]
  exact congrArg (· / _) (wsum_foldZero a _ hw)

theorem nth_freqsOf_mirror (s k : List Nat) (hb : InB s k) (hv : ∀ v ∈ s, 2 ≤ v) (j : Nat) (hj : j < s.length) :
    nth (freqsOf (α := α) s (mirror s k)) j = 1 - nth (freqsOf (α := α) s k) j := by
  induction s, k, hb using InB.induction generalizing j with
  | nil => cases hj
  | cons v s i k hi _ ih =>
    cases j with
    | zero =>
      have hne : ((v - 1 : Nat) : α) ≠ 0 := Nat.cast_ne_zero.mpr (Nat.sub_ne_zero_of_lt (hv v List.mem_cons_self))
      show ((v - 1 - i : Nat) : α) / ((v - 1 : Nat) : α) = 1 - (i : α) / ((v - 1 : Nat) : α)
      rw [Nat.cast_sub (Nat.le_sub_one_of_lt hi), sub_div, div_self hne]
    | succ j => exact ih (fun w hw => hv w (List.mem_cons_of_mem _ hw)) j (Nat.lt_of_succ_lt_succ hj)

/-- mirroring the cell sends every frequency `f_j` to `1 - f_j` -/
theorem nth_freqs_rev (s : List Nat) (hv : ∀ v ∈ s, 2 ≤ v) (i : Nat) (h : i < size s) (j : Nat) (hj : j < s.length) :
    nth (freqs (α := α) s (size s - 1 - i)) j = 1 - nth (freqs (α := α) s i) j := by
  rw [freqs_eq s _ (by omega), freqs_eq s i h, unflat_rev s i h]
  exact nth_freqsOf_mirror s _ (unflat_inB s i h) hv j hj

theorem fstParts_foldZero (a : Arr α) (hlen : a.data.length = size a.shape) (hv : ∀ v ∈ a.shape, 2 ≤ v)
    (h2 : a.shape.length = 2) : fstParts (foldZero a) = fstParts a := by
  rw [fstParts_eq_wsum, fstParts_eq_wsum, foldZero_length, hlen, show (foldZero a).shape = a.shape from rfl]
  have hrev : ∀ i, i + 1 < size a.shape → ∀ j, j < 2 →
      nth (freqs (α := α) a.shape (size a.shape - 1 - i)) j = 1 - nth (freqs a.shape i) j :=
    fun i hi j hj => nth_freqs_rev a.shape hv i (by omega) j (by omega)
  refine Prod.ext (wsum_foldZero a _ (onInterior_symm _ _ fun i _ h1 => ?_))
    (wsum_foldZero a _ (onInterior_symm _ _ fun i _ h1 => ?_))
  · rw [hrev i h1 0 (by decide), hrev i h1 1 (by decide)]
    exact fstNum_compl _ _ _
  · rw [hrev i h1 0 (by decide), hrev i h1 1 (by decide)]
    exact fstDen_compl _ _

end

section
variable {α : Type} [Field α]

/-- an interior weight does not see the two corner cells -/
theorem wsum_setMono (x : List α) (p q : α) (w : Nat → α) :
    sf_wsum x.length ((x.set 0 p).set (x.length - 1) q) (onInterior x.length w) = sf_wsum x.length x (onInterior x.length w) := by
  refine wsum_congr (fun i _ => ?_)
  unfold onInterior
  split
  · simp only [List.getD_eq_getElem?_getD, List.getElem?_set]
    rw [if_neg (by omega), if_neg (by omega)]
  · rw [mul_zero, mul_zero]

theorem segregating_setMono (x : List α) (p q : α) :
    segregating ((x.set 0 p).set (x.length - 1) q) = segregating x := by
  rw [segregating_eq_wsum, segregating_eq_wsum, List.length_set, List.length_set, wsum_setMono]

theorem thetaEstimate_setMono (w : Nat → Nat → α) (x : List α) (p q : α) :
    thetaEstimate w ((x.set 0 p).set (x.length - 1) q) = thetaEstimate w x := by
  rw [thetaEstimate_eq_wsum, thetaEstimate_eq_wsum, List.length_set, List.length_set, wsum_setMono]

theorem fstParts_setMono (a : Arr α) (p q : α) : fstParts (setMono a p q) = fstParts a := by
  rw [fstParts_eq_wsum, fstParts_eq_wsum]
  simp only [setMono, List.length_set, wsum_setMono]

theorem swapPops_getD (a : Arr α) (r c : Nat) (hs : a.shape = [r, c]) (i j : Nat) (hi : i < r) (hj : j < c) :
    (swapPops a).data.getD (j * r + i) 0 = a.data.getD (i * c + j) 0 := by
  have hdm := mul_add_div_mod j i r hi
  simp only [swapPops, hs, List.getD_cons_zero, List.getD_cons_succ]
  rw [flatMap_range (fun j i => a.data.getD (i * c + j) 0) c r, getD_range_map, if_pos (mul_add_lt_mul hj hi), hdm.1,
    hdm.2]

theorem swapPops_length (a : Arr α) (r c : Nat) (hs : a.shape = [r, c]) : (swapPops a).data.length = c * r := by
  simp only [swapPops, hs, List.getD_cons_zero, List.getD_cons_succ]
  rw [flatMap_range (fun j i => a.data.getD (i * c + j) 0) c r, List.length_map, List.length_range]

theorem swapPops_shape (a : Arr α) (r c : Nat) (hs : a.shape = [r, c]) : (swapPops a).shape = [c, r] := by
  simp only [swapPops, hs, List.getD_cons_zero, List.getD_cons_succ]

theorem wsum_swap (a : Arr α) (r c : Nat) (hs : a.shape = [r, c]) (W W' : Nat → α)
    (hW : ∀ i j, i < r → j < c → W' (j * r + i) = W (i * c + j)) :
    sf_wsum (c * r) (swapPops a).data W' = sf_wsum (r * c) a.data W := by
  unfold sf_wsum
  rw [sum_range_mul, sum_range_mul, Finset.sum_comm]
  refine Finset.sum_congr rfl fun i hi => Finset.sum_congr rfl fun j hj => ?_
  rw [mem_range] at hi hj
  rw [swapPops_getD a r c hs i j hi hj, hW i j hi hj]

/-- the first cell is `[0, 0]` and the last `[r - 1, c - 1]`, whichever axis comes first -/
theorem onInterior_swap (r c : Nat) (W W' : Nat → α) (hW : ∀ i j, i < r → j < c → W' (j * r + i) = W (i * c + j))
    (i j : Nat) (hi : i < r) (hj : j < c) : onInterior (c * r) W' (j * r + i) = onInterior (r * c) W (i * c + j) := by
  have h1 := interior_flat_iff [r, c] [i, j] ⟨hi, hj, trivial⟩
  have h2 := interior_flat_iff [c, r] [j, i] ⟨hj, hi, trivial⟩
  rw [flat_pair, size_pair] at h1 h2
  unfold onInterior
  rw [hW i j hi hj]
  refine if_congr (h2.trans (Iff.trans ?_ h1.symm)) rfl rfl
  simp only [List.map_cons, List.map_nil, Ne, List.cons.injEq, and_true]
  rw [and_comm (a := j = 0), and_comm (a := j = c - 1)]

theorem sumList_swap (a : Arr α) (r c : Nat) (hs : a.shape = [r, c]) (hl : a.data.length = r * c) :
    sumList (swapPops a).data = sumList a.data := by
  rw [sumList_eq_wsum, sumList_eq_wsum, swapPops_length a r c hs, hl]
  exact wsum_swap a r c hs _ _ (fun _ _ _ _ => rfl)

/-- the two frequencies of cell `[i, j]` of a two-axis spectrum -/
theorem freqs_cell (r c i j : Nat) (hi : i < r) (hj : j < c) :
    freqs (α := α) [r, c] (i * c + j) = [((i : Nat) : α) / ((r - 1 : Nat) : α), ((j : Nat) : α) / ((c - 1 : Nat) : α)] := by
  rw [freqs_eq _ _ ((mul_add_lt_mul hi hj).trans_eq (size_pair r c).symm), unflat_pair r c i j hj]
  rfl

theorem fstParts_swap (a : Arr α) (r c : Nat) (hs : a.shape = [r, c]) (hl : a.data.length = r * c) :
    fstParts (swapPops a) = fstParts a := by
  rw [fstParts_eq_wsum, fstParts_eq_wsum, swapPops_length a r c hs, hl, swapPops_shape a r c hs, hs]
  refine Prod.ext (wsum_swap a r c hs _ _ (onInterior_swap r c _ _ fun i j hi hj => ?_))
    (wsum_swap a r c hs _ _ (onInterior_swap r c _ _ fun i j hi hj => ?_))
  · rw [freqs_cell c r j i hj hi, freqs_cell r c i j hi hj]
    exact fstNum_swap r c _ _
  · rw [freqs_cell c r j i hj hi, freqs_cell r c i j hi hj]
    exact add_comm _ _

theorem normalized_scaleBy (c : α) (hc : c ≠ 0) (a : Arr α) : normalized (scaleBy c a) = normalized a := by
  simp only [normalized, scaleBy, normalize_eq_map, List.map_map]
  refine congrArg (Arr.mk · _) (List.map_congr_left fun v _ => ?_)
  rw [Function.comp, List.sum_map_mul_left, List.map_id']
  exact mul_div_mul_left _ _ hc

/-- What KING, R0 and R1 read of a 3x3 spectrum: the centre cell `[1,1]`, the pair `[0,2] + [2,0]`, and the four cells
    next to the centre, grouped as the mirror pairs `[0,1] + [2,1]` and `[1,0] + [1,2]`. -/
def kinParts (a : Arr α) : α × α × α :=
  (at33 a 1 1, at33 a 0 2 + at33 a 2 0, (at33 a 0 1 + at33 a 2 1) + (at33 a 1 0 + at33 a 1 2))

theorem statKing_eq (a : Arr α) :
    statKing a = ((kinParts a).1 - ((2 : Nat) : α) * (kinParts a).2.1) / ((kinParts a).2.2 + ((2 : Nat) : α) * (kinParts a).1) := by
  unfold statKing kinParts
  refine congrArg₂ (· / ·) rfl ?_
  ring

theorem statR0_eq (a : Arr α) : statR0 a = (kinParts a).2.1 / (kinParts a).1 := rfl

theorem statR1_eq (a : Arr α) : statR1 a = (kinParts a).1 / ((kinParts a).2.2 + (kinParts a).2.1) := by
  unfold statR1 kinParts
  simp only [sumList_eq_sum, List.sum_cons, List.sum_nil]
  refine congrArg₂ (· / ·) rfl ?_
  ring

theorem kin_congr {a b : Arr α} (h : kinParts b = kinParts a) :
    statKing b = statKing a ∧ statR0 b = statR0 a ∧ statR1 b = statR1 a := by
  rw [statKing_eq, statR0_eq, statR1_eq, h]
  exact ⟨(statKing_eq a).symm, rfl, (statR1_eq a).symm⟩

/-- the three ratios are homogeneous of degree zero -/
theorem kin_scale (c : α) (hc : c ≠ 0) (a : Arr α) :
    statKing (scaleBy c a) = statKing a ∧ statR0 (scaleBy c a) = statR0 a ∧ statR1 (scaleBy c a) = statR1 a := by
  have h : kinParts (scaleBy c a) = (c * (kinParts a).1, c * (kinParts a).2.1, c * (kinParts a).2.2) := by
    have e : ∀ r k, at33 (scaleBy c a) r k = c * at33 a r k := fun r k => getD_map_mul c a.data _
    simp only [kinParts, e, mul_add]
  rw [statKing_eq, statR0_eq, statR1_eq, h]
  simp only [mul_left_comm _ c, ← mul_sub, ← mul_add, mul_div_mul_left _ _ hc]
  exact ⟨(statKing_eq a).symm, rfl, (statR1_eq a).symm⟩

theorem kinParts_setMono (a : Arr α) (hl : a.data.length = 9) (p q : α) : kinParts (setMono a p q) = kinParts a := by
  have e : ∀ r c, 1 ≤ 3 * r + c → 3 * r + c < 8 → at33 (setMono a p q) r c = at33 a r c := fun r c h1 h2 => by
    simp only [at33, nth, setMono, List.getD_eq_getElem?_getD, List.getElem?_set]
    rw [if_neg (by omega), if_neg (by omega)]
  simp (disch := decide) only [kinParts, e]

theorem kinParts_swap (a : Arr α) (hs : a.shape = [3, 3]) : kinParts (swapPops a) = kinParts a := by
  have e : ∀ r c, r < 3 → c < 3 → at33 (swapPops a) r c = at33 a c r := fun r c hr hc => by
    unfold at33 nth
    rw [Nat.mul_comm 3 r, Nat.mul_comm 3 c]
    exact swapPops_getD a 3 3 hs c r hc hr
  simp (disch := decide) only [kinParts, e]
  rw [add_comm (at33 a 2 0), add_comm (at33 a 1 0 + at33 a 1 2)]

/-- Folding preserves the sum of every mirror pair (`fold_pair`); the centre cell is its own partner. -/
theorem kinParts_foldZero [CharZero α] (a : Arr α) (hs : a.shape = [3, 3]) : kinParts (foldZero a) = kinParts a := by
  have pair : ∀ i j, i + j = 8 →
      (foldZero a).data.getD i 0 + (foldZero a).data.getD j 0 = a.data.getD i 0 + a.data.getD j 0 := fun i j h => by
    obtain rfl : j = 8 - i := by omega
    rw [foldZero_data, hs]
    exact fold_pair [3, 3] a.data i (Nat.lt_succ_of_le (Nat.le.intro h))
  have mid := pair 4 4 rfl
  rw [← two_mul, ← two_mul] at mid
  unfold kinParts at33 nth
  rw [mul_left_cancel₀ (OfNat.ofNat_ne_zero 2) mid, pair 2 6 rfl, pair 1 7 rfl, pair 3 5 rfl]

end

end Sfs
