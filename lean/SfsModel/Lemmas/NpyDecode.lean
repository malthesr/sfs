/-
The values of the patterns the npy decoders produce: `f64BitsOfNat` is exact up to `2^53` (`f64OfBits_ofNat_exact`) and
rounds to 53 bits beyond (`f64OfBits_ofNat_large`); widening binary32 is exact (`f64OfBits_f64BitsOfF32Bits`).
-/
import SfsModel.Lemmas.F64Layout
namespace Sfs

/-- normalising a number with `e = log2 n ≤ k` to `k+1` bits. -/
theorem mul_two_pow_sub_log2_bounds (n k : Nat) (hn : n ≠ 0) (he : Nat.log2 n ≤ k) :
    2 ^ k ≤ n * 2 ^ (k - Nat.log2 n) ∧ n * 2 ^ (k - Nat.log2 n) < 2 ^ (k + 1) := by
  obtain ⟨h1, h2⟩ := log2_bounds n hn
  have hp : 0 < 2 ^ (k - Nat.log2 n) := Nat.pow_pos (by decide)
  constructor
  · calc 2 ^ k = 2 ^ Nat.log2 n * 2 ^ (k - Nat.log2 n) := by rw [← Nat.pow_add]; congr 1; omega
      _ ≤ n * 2 ^ (k - Nat.log2 n) := Nat.mul_le_mul_right _ h1
  · calc n * 2 ^ (k - Nat.log2 n) < 2 ^ (Nat.log2 n + 1) * 2 ^ (k - Nat.log2 n) := Nat.mul_lt_mul_of_pos_right h2 hp
      _ = 2 ^ (k + 1) := by rw [← Nat.pow_add]; congr 1; omega

theorem shiftRoundEven_eq_roundHE (n s : Nat) : shiftRoundEven n s = roundHE n (2 ^ s) := by
  unfold shiftRoundEven roundHE
  cases s
  · simp [Nat.mod_one]
  · simp only [Nat.succ_ne_zero, if_false, Nat.add_sub_cancel, gt_iff_lt, Nat.pow_succ',
      Nat.mul_lt_mul_left (show 0 < 2 by decide)]

/-- the rounded mantissa of a number with more than 53 bits. -/
theorem shiftRoundEven_mant (n : Nat) (hn : n ≠ 0) (he : 52 < Nat.log2 n) :
    2 ^ 52 ≤ shiftRoundEven n (Nat.log2 n - 52) ∧ shiftRoundEven n (Nat.log2 n - 52) ≤ 2 ^ 53 := by
  obtain ⟨h1, h2⟩ := log2_bounds n hn
  rw [shiftRoundEven_eq_roundHE]
  apply roundHE_between _ _ _ _ (Nat.pow_pos (by decide))
  · rw [← Nat.pow_add, show 52 + (Nat.log2 n - 52) = Nat.log2 n by omega]; exact h1
  · rw [← Nat.pow_add, show 53 + (Nat.log2 n - 52) = Nat.log2 n + 1 by omega]; exact Nat.le_of_lt h2

theorem f64OfBits_ofNat_large (neg : Bool) (n : Nat) (hn : n ≠ 0) (he : 52 < Nat.log2 n) (hlt : n < 2 ^ 64) :
    f64OfBits (f64BitsOfNat neg n) =
      .fin (if neg then -((shiftRoundEven n (Nat.log2 n - 52) * 2 ^ (Nat.log2 n - 52) : Nat) : Rat)
        else ((shiftRoundEven n (Nat.log2 n - 52) * 2 ^ (Nat.log2 n - 52) : Nat) : Rat)) := by
  obtain ⟨b1, b2⟩ := shiftRoundEven_mant n hn he
  have h64 : Nat.log2 n < 64 := (Nat.log2_lt hn).mpr hlt
  unfold f64BitsOfNat log2Nat
  simp only [hn, if_false, show ¬ Nat.log2 n ≤ 52 by omega]
  generalize shiftRoundEven n (Nat.log2 n - 52) = m at *  -- the rounded significand: a name, nothing more
  -- rounding up to `2^53` is the same pattern arithmetic: `(E + 1) · 2^52 = E · 2^52 + (2^53 - 2^52)`
  have hp : (if m = 2 ^ 53 then (if neg then 2 ^ 63 else 0) + (1023 + Nat.log2 n + 1) * 2 ^ 52
      else (if neg then 2 ^ 63 else 0) + (1023 + Nat.log2 n) * 2 ^ 52 + (m - 2 ^ 52)) =
      (if neg then 2 ^ 63 else 0) + ((1023 + Nat.log2 n) * 2 ^ 52 + (m - 2 ^ 52)) := by
    split
    · rename_i hm
      rw [hm, Nat.add_mul _ 1, Nat.one_mul, show (2 : Nat) ^ 53 - 2 ^ 52 = 2 ^ 52 by decide]
    · rw [Nat.add_assoc]
  rw [hp, f64OfBits_sign_normal neg _ _ (by omega) (by omega) b1 b2, Nat.cast_mul, natCast_two_pow,
    show ((1023 + Nat.log2 n : Nat) : Int) - 1075 = ((Nat.log2 n - 52 : Nat) : Int) by omega]

theorem f64OfBits_ofNat_exact (neg : Bool) (n : Nat) (hn0 : n ≠ 0) (hn : n ≤ 2 ^ 53) :
    f64OfBits (f64BitsOfNat neg n) = .fin (if neg then -(n : Rat) else n) := by
  by_cases h : n = 2 ^ 53
  · subst h; cases neg <;> decide +kernel
  have he : Nat.log2 n ≤ 52 := Nat.le_of_lt_succ ((Nat.log2_lt hn0).mpr (by omega))
  obtain ⟨b1, b2⟩ := mul_two_pow_sub_log2_bounds n 52 hn0 he
  unfold f64BitsOfNat log2Nat
  simp only [hn0, if_false, he, if_true]
  rw [Nat.add_assoc, f64OfBits_sign_normal neg _ _ (by omega) (by omega) b1 (Nat.le_of_lt b2)]
  -- `n · 2^(52 - e) · 2^(e - 52) = n`
  rw [Nat.cast_mul, natCast_two_pow, mul_assoc, ← zpow2_add,
    show ((52 - Nat.log2 n : Nat) : Int) + (((1023 + Nat.log2 n : Nat) : Int) - 1075) = 0 by omega, zpow_zero, mul_one]

theorem f64OfBits_ofNat_unsigned (n : Nat) (hn : n ≤ 2 ^ 53) : f64OfBits (f64BitsOfNat false n) = .fin (n : Rat) := by
  by_cases h0 : n = 0
  · subst h0
    simp only [f64BitsOfNat, if_true, f64OfBits_zero, Nat.cast_zero]
  · simpa using f64OfBits_ofNat_exact false n h0 hn

/-- the exact value of a binary32 pattern, on its three fields. -/
def f32Val (sign : Bool) (e m : Nat) : XR :=
  if e == 255 then (if m == 0 then .inf sign else .nan)
  else
    let mag : Rat := if e == 0 then (m : Rat) / ((2 ^ 149 : Nat) : Rat)
      else if e ≥ 150 then (((2 ^ 23 + m) * 2 ^ (e - 150) : Nat) : Rat)
      else ((2 ^ 23 + m : Nat) : Rat) / ((2 ^ (150 - e) : Nat) : Rat)
    .fin (if sign then -mag else mag)

theorem f32Val_max (sign : Bool) (m : Nat) : f32Val sign 255 m = if m == 0 then .inf sign else .nan := rfl

theorem f32Val_sub (sign : Bool) (m : Nat) :
    f32Val sign 0 m = .fin (if sign then -((m : Rat) / ((2 ^ 149 : Nat) : Rat)) else (m : Rat) / ((2 ^ 149 : Nat) : Rat)) := rfl

theorem f32Val_normal (sign : Bool) (e m : Nat) (he0 : e ≠ 0) (he : e ≠ 255) :
    f32Val sign e m = .fin (if sign then -(((2 ^ 23 + m : Nat) : Rat) * (2 : Rat) ^ ((e : Int) - 150))
      else ((2 ^ 23 + m : Nat) : Rat) * (2 : Rat) ^ ((e : Int) - 150)) := by
  have e1 : (e == 255) = false := by simpa using he
  have e2 : (e == 0) = false := by simpa using he0
  have key : (if e ≥ 150 then (((2 ^ 23 + m) * 2 ^ (e - 150) : Nat) : Rat)
      else ((2 ^ 23 + m : Nat) : Rat) / ((2 ^ (150 - e) : Nat) : Rat)) =
      ((2 ^ 23 + m : Nat) : Rat) * (2 : Rat) ^ ((e : Int) - 150) := by
    split
    · rw [Nat.cast_mul, natCast_two_pow, show (e : Int) - 150 = ((e - 150 : Nat) : Int) by omega]
    · rw [natCast_two_pow, div_eq_mul_inv, ← zpow_neg, show (e : Int) - 150 = -((150 - e : Nat) : Int) by omega]
  unfold f32Val
  simp only [e1, e2, Bool.false_eq_true, if_false, key]

theorem signBit_mul (s : Nat) (hs : s < 2) : s * 2 ^ 63 = if s == 1 then 2 ^ 63 else 0 := by
  obtain rfl | rfl : s = 0 ∨ s = 1 := by omega
  · rfl
  · rfl

theorem f64OfBits_f64BitsOfF32Bits (b : Nat) :
    f64OfBits (f64BitsOfF32Bits b) = f32Val (b / 2 ^ 31 % 2 == 1) (b / 2 ^ 23 % 2 ^ 8) (b % 2 ^ 23) := by
  have hs : b / 2 ^ 31 % 2 < 2 := Nat.mod_lt _ (by decide)
  have he : b / 2 ^ 23 % 2 ^ 8 < 2 ^ 8 := Nat.mod_lt _ (by decide)
  have hm : b % 2 ^ 23 < 2 ^ 23 := Nat.mod_lt _ (by decide)
  unfold f64BitsOfF32Bits log2Nat
  generalize b / 2 ^ 31 % 2 = s at *
  generalize b / 2 ^ 23 % 2 ^ 8 = e at *
  generalize b % 2 ^ 23 = m at *
  simp only
  split
  · rename_i h255
    subst h255
    rw [f32Val_max]
    split
    · -- ±inf: all-ones exponent, mantissa 0, on both sides
      rename_i hm0
      subst hm0
      have := f64OfBits_mk s 2047 0 hs (by decide) (by decide)
      rw [Nat.add_zero] at this
      rw [this, f64Val_max]
    · -- NaN: `f32Val` says nothing of the payload; the quiet bit `2^51` alone makes the widened mantissa non-zero
      -- (first `if_neg`), `m ≠ 0` makes the binary32 side a NaN (second)
      rename_i hm0
      have := f64OfBits_mk s 2047 (2 ^ 51 + (m % 2 ^ 22) * 2 ^ 29) hs (by decide) (by omega)
      rw [← Nat.add_assoc] at this
      rw [this, f64Val_max, if_neg (by simp), if_neg (by simpa using hm0)]
  · rename_i h255
    split
    · rename_i h0
      subst h0
      rw [f32Val_sub]
      split
      · -- ±0: all fields but the sign are 0
        rename_i hm0
        subst hm0
        have := f64OfBits_mk s 0 0 hs (by decide) (by decide)
        simp only [Nat.zero_mul, Nat.add_zero] at this
        rw [this, f64Val_zero, Nat.cast_zero, zero_div, neg_zero, ite_self]
      · -- a subnormal binary32 `m · 2^-149` is normal in binary64: significand `m · 2^(52 - l)`, `l = log2 m`
        rename_i hm0
        have hl : Nat.log2 m < 23 := (Nat.log2_lt hm0).mpr hm
        obtain ⟨b1, b2⟩ := mul_two_pow_sub_log2_bounds m 52 hm0 (by omega)
        rw [signBit_mul s hs, Nat.add_assoc, f64OfBits_sign_normal _ _ _ (by omega) (by omega) b1 (Nat.le_of_lt b2),
          Nat.cast_mul, natCast_two_pow, natCast_two_pow, mul_assoc, ← zpow2_add, div_eq_mul_inv, ← zpow_neg,
          show ((52 - Nat.log2 m : Nat) : Int) + (((1023 - 149 + Nat.log2 m : Nat) : Int) - 1075) = -((149 : Nat) : Int) by
            omega]
    · -- normal: significand `(2^23 + m) · 2^29`, exponent field rebiased by `1023 - 127`
      rename_i h0
      rw [f32Val_normal _ e m h0 h255, signBit_mul s hs, Nat.add_assoc,
        show m * 2 ^ 29 = (2 ^ 23 + m) * 2 ^ 29 - 2 ^ 52 by omega,
        f64OfBits_sign_normal _ _ _ (by omega) (by omega) (by omega) (by omega), Nat.cast_mul, natCast_two_pow, mul_assoc,
        ← zpow2_add, show ((29 : Nat) : Int) + (((e + 896 : Nat) : Int) - 1075) = (e : Int) - 150 by omega]

end Sfs
