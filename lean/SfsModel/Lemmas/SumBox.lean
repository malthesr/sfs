/-
A sum over the flat positions of a shape is the nested sum over its index box (`sumBox`, `sum_unflat`); the sum of a list
is a `Finset.range` sum.
-/
import SfsModel.Lemmas.Index
import Mathlib.Algebra.BigOperators.Intervals
namespace Sfs
open Finset

/-- nested sum over the index box of a shape -/
def sumBox {α} [AddCommMonoid α] : (s : List Nat) → (List Nat → α) → α
  | [], F => F []
  | v :: s, F => ∑ i ∈ range v, sumBox s (fun idx => F (i :: idx))

theorem sumBox_zero {α} [AddCommMonoid α] : ∀ (s : List Nat), sumBox s (fun _ => (0 : α)) = 0
  | [] => rfl
  | _ :: s => Finset.sum_eq_zero (fun _ _ => sumBox_zero s)

theorem sum_range_mul {α} [AddCommMonoid α] (g : Nat → α) (v S : Nat) :
    ∑ t ∈ range (v * S), g t = ∑ i ∈ range v, ∑ t ∈ range S, g (i * S + t) := by
  induction v with
  | zero => simp
  | succ v ih =>
    rw [Nat.succ_mul, Finset.sum_range_add, ih, Finset.sum_range_succ]

theorem sum_unflat {α} [AddCommMonoid α] : ∀ (s : List Nat) (F : List Nat → α),
    ∑ t ∈ range (size s), F (unflat s t) = sumBox s F
  | [], F => by simp only [size, unflat, sumBox, Finset.sum_range_one]
  | v :: s, F => by
    simp only [size, sumBox]
    rw [sum_range_mul]
    refine Finset.sum_congr rfl fun i _ => ?_
    rw [← sum_unflat s (fun idx => F (i :: idx))]
    exact Finset.sum_congr rfl fun t ht => by rw [unflat_cons_add v i (Finset.mem_range.mp ht)]

theorem sum_reflect {α} [AddCommMonoid α] (g : Nat → α) (n : Nat) :
    ∑ i ∈ range n, g (n - 1 - i) = ∑ i ∈ range n, g i :=
  Finset.sum_range_reflect g n

/-- `Finset.range n` is the multiset of `List.range n`, so both sides unfold to the same fold. -/
theorem list_range_sum {α} [AddCommMonoid α] (f : Nat → α) (n : Nat) :
    ((List.range n).map f).sum = ∑ i ∈ Finset.range n, f i := rfl

theorem list_sum_eq_range {α} [AddCommMonoid α] (x : List α) : x.sum = ∑ i ∈ Finset.range x.length, x.getD i 0 := by
  induction x with
  | nil => rfl
  | cons a x ih => rw [List.length_cons, Finset.sum_range_succ', List.sum_cons, ih, add_comm]; rfl

theorem sum_map_one {α β} [Semiring α] (l : List β) : (l.map (fun _ => (1 : α))).sum = ((l.length : Nat) : α) := by
  rw [List.map_const', List.sum_replicate, nsmul_eq_mul, mul_one]

theorem sum_map_filter {α β} [AddMonoid α] (p : β → Bool) (f : β → α) (l : List β) :
    ((l.filter p).map f).sum = (l.map (fun b => if p b then f b else 0)).sum := by
  induction l with
  | nil => rfl
  | cons b l ih =>
    rw [List.filter_cons]
    cases h : p b <;> simp [h, ih]

theorem sum_indicator {α β} [Semiring α] (p : β → Bool) (l : List β) :
    (l.map (fun r => if p r then (1 : α) else 0)).sum = (((l.filter p).length : Nat) : α) := by
  rw [← sum_map_filter, sum_map_one]

end Sfs
