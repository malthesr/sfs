/-
15 significant digits: the nearest binary64 of `M / 10^p`, `M < 10^15`, is within relative distance 2^-53, less than
half a unit of the last printed digit, so it prints back as `M`.
-/
import SfsModel.Lemmas.TextRoundtrip
import SfsModel.Lemmas.Nearest
namespace Sfs

theorem d15_cancel_le (a b : Rat) (d : Nat) (hd : 0 < d) (h : a * (d : Rat) ≤ b * (d : Rat)) : a ≤ b := by
  have hd' : (0 : Rat) < (d : Rat) := by exact_mod_cast hd
  exact le_of_mul_le_mul_right h hd'

theorem d15_cancel_lt (a b : Rat) (d : Nat) (hd : 0 < d) (h : a * (d : Rat) < b * (d : Rat)) : a < b := by
  have hd' : (0 : Rat) < (d : Rat) := by exact_mod_cast hd
  exact lt_of_mul_lt_mul_right h (le_of_lt hd')

/-- a value within relative distance `1/K` of `M / T`, `2·M < K`, prints as `M`. -/
theorem roundHE_of_rel_close (v t K : Rat) (M T : Nat) (hT : 0 < T) (hK : 2 * (M : Rat) < K)
    (ht : t = (M : Rat) / (T : Rat)) (hv : 0 ≤ v) (h : |v - t| * K ≤ t) :
    roundHE (v.num.natAbs * T) v.den = M := by
  have hT' : (0 : Rat) < (T : Rat) := by exact_mod_cast hT
  have hKp : (0 : Rat) < K := lt_of_le_of_lt (by positivity) hK
  apply roundHE_of_near v.den_pos (natAbs_mul_div_den v hv T) M
  -- `|M - v·T| = |v - t|·T ≤ t·T / K = M / K < 1/2`
  have htT : t * (T : Rat) = (M : Rat) := by rw [ht]; exact div_mul_cancel₀ _ hT'.ne'
  have h1 : |v - t| * (T : Rat) * K ≤ (M : Rat) := by
    rw [mul_right_comm, ← htT]; exact mul_le_mul_of_nonneg_right h hT'.le
  rw [← htT, ← sub_mul, abs_mul, abs_of_pos hT', abs_sub_comm]
  exact lt_of_mul_lt_mul_right (lt_of_le_of_lt h1 (by linarith only [hK])) hKp.le

theorem pow_consts_15 : 10 ^ 300 ≤ 2 ^ 1022 ∧ 10 ^ 15 ≤ 2 ^ 1023 ∧ 2 * 10 ^ 15 < 2 ^ 53 := by decide +kernel

set_option exponentiation.threshold 2000 in
/-- a decimal with at most 15 digits and at most 300 decimals lies in the normal range of binary64. -/
theorem decimal15_normal_range (M p : Nat) (hM0 : 0 < M) (hM : M < 10 ^ 15) (hp : p ≤ 300) :
    (2 : Rat) ^ (-1022 : Int) ≤ (M : Rat) / ((10 ^ p : Nat) : Rat) ∧
      (M : Rat) / ((10 ^ p : Nat) : Rat) < (2 : Rat) ^ (1023 : Int) := by
  obtain ⟨c1, c2, _⟩ := pow_consts_15
  have hT : 0 < 10 ^ p := Nat.pow_pos (by decide)
  have hT2 : 10 ^ p ≤ 10 ^ 300 := Nat.pow_le_pow_right (by decide) hp
  have hA : 0 < 2 ^ 1022 := Nat.pow_pos (by decide)
  have e1 : (2 : Rat) ^ (-1022 : Int) = 1 / ((2 ^ 1022 : Nat) : Rat) := by
    rw [natCast_two_pow, one_div, ← zpow_neg]; rfl
  have e2 : (2 : Rat) ^ (1023 : Int) = ((2 ^ 1023 : Nat) : Rat) := (natCast_two_pow 1023).symm
  rw [e1, e2]
  generalize 10 ^ p = T at *  -- a name, nothing more
  have hT' : (0 : Rat) < (T : Rat) := by exact_mod_cast hT
  have hA' : (0 : Rat) < ((2 ^ 1022 : Nat) : Rat) := by exact_mod_cast hA
  constructor
  · rw [div_le_div_iff₀ hA' hT']
    have : 1 * T ≤ M * 2 ^ 1022 := by
      rw [Nat.one_mul]
      exact Nat.le_trans (Nat.le_trans hT2 c1) (Nat.le_mul_of_pos_left _ hM0)
    exact_mod_cast this
  · apply nat_div_lt M T (2 ^ 1023) hT
    exact Nat.lt_of_lt_of_le hM (Nat.le_trans c2 (Nat.le_mul_of_pos_right _ hT))

theorem nonneg_of_rel_close (v t K : Rat) (hK : 1 ≤ K) (h : |v - t| * K ≤ t) : 0 ≤ v := by
  have h1 := le_mul_of_one_le_right (abs_nonneg (v - t)) hK
  have h2 := neg_abs_le (v - t)
  linarith only [h1, h2, h]

/-- For the nearest binary64 `b` of the decimal `M / 10^p`: (1) `b` prints as `M`, (2) so does the decimal itself —
    together the print-back of C07X; (3) `b` has no sign bit and (4) is finite, which with (1) is what re-reading a
    printed value (`fmtFixed_reparse_decimal15`) needs. -/
theorem fmtFixed_nearest_decimal15 (M p : Nat) (hM : M < 10 ^ 15) (hp : p ≤ 300) :
    fmtFixed (f64BitsOfRatNonneg ((M : Rat) / ((10 ^ p : Nat) : Rat))) p = fmtScaled M p ∧
    fmtRatFixed ((M : Rat) / ((10 ^ p : Nat) : Rat)) p = fmtScaled M p ∧
    f64BitsOfRatNonneg ((M : Rat) / ((10 ^ p : Nat) : Rat)) < 2 ^ 63 ∧
    ∃ v, f64OfBits (f64BitsOfRatNonneg ((M : Rat) / ((10 ^ p : Nat) : Rat))) = .fin v := by
  have hT : 0 < 10 ^ p := Nat.pow_pos (by decide)
  have hR : fmtRatFixed ((M : Rat) / ((10 ^ p : Nat) : Rat)) p = fmtScaled M p := by
    rw [fmtRatFixed_eq, roundHE_num_mul_den _ M (10 ^ p) hT rfl]
  by_cases hM0 : M = 0
  · subst hM0
    have hz : f64BitsOfRatNonneg (((0 : Nat) : Rat) / ((10 ^ p : Nat) : Rat)) = 0 :=
      f64BitsOfRatNonneg_of_nonpos _ (by rw [Nat.cast_zero, zero_div])
    rw [hz]
    refine ⟨?_, hR, by decide, 0, f64OfBits_zero⟩
    rw [fmtFixed_fin 0 p 0 f64OfBits_zero, f64Sign_of_lt 0 (by decide), absRat_eq_abs, abs_zero, fmtRatFixed_eq,
      roundHE_num_mul_den 0 0 (10 ^ p) hT (by rw [Nat.cast_zero, zero_div])]
    rfl
  · obtain ⟨r1, r2⟩ := decimal15_normal_range M p (Nat.pos_of_ne_zero hM0) hM hp
    obtain ⟨v, hv, herr, hlt⟩ := nearest_normal _ r1 r2
    refine ⟨?_, hR, hlt, v, hv⟩
    have hM1 : (1 : Rat) ≤ (M : Rat) := by exact_mod_cast Nat.pos_of_ne_zero hM0
    have hK : 2 * (M : Rat) < (2 : Rat) ^ (53 : Int) := by
      have e : (2 : Rat) ^ (53 : Int) = ((2 ^ 53 : Nat) : Rat) := (natCast_two_pow 53).symm
      rw [e]; exact_mod_cast (show 2 * M < 2 ^ 53 by have := pow_consts_15.2.2; omega)
    have hv0 := nonneg_of_rel_close _ _ _ (by linarith only [hM1, hK]) herr
    rw [fmtFixed_fin _ p v hv, f64Sign_of_lt _ hlt, absRat_eq_abs, abs_of_nonneg hv0, fmtRatFixed_eq,
      roundHE_of_rel_close v _ _ M (10 ^ p) hT hK rfl hv0 herr]
    rfl

/-- text → npy → text on one value, in terms of `roundHE`. -/
theorem fmtFixed_reparse_decimal15 (x p : Nat) (q : Rat) (hf : f64OfBits x = .fin q)
    (h15 : roundHE ((absRat q).num.natAbs * 10 ^ p) (absRat q).den < 10 ^ 15) (hp : p ≤ 300) (b' : Nat)
    (hb : b' = (if f64Sign x then 2 ^ 63 else 0) +
      f64BitsOfRatNonneg ((roundHE ((absRat q).num.natAbs * 10 ^ p) (absRat q).den : Rat) / ((10 ^ p : Nat) : Rat))) :
    fmtFixed b' p = fmtFixed x p := by
  obtain ⟨p1, _, hlt, v, hv⟩ := fmtFixed_nearest_decimal15 _ p h15 hp
  rw [fmtFixed_fin x p q hf, fmtRatFixed_eq]
  generalize roundHE ((absRat q).num.natAbs * 10 ^ p) (absRat q).den = R at *  -- names, nothing more
  generalize f64BitsOfRatNonneg ((R : Rat) / ((10 ^ p : Nat) : Rat)) = b0 at *
  -- `p2`: `p1` with `fmtFixed b0` opened (the digits of `|v|`), for the arm with the sign bit set
  have p2 := p1
  rw [fmtFixed_fin b0 p v hv, f64Sign_of_lt b0 hlt] at p2
  simp only [Bool.false_eq_true, if_false, List.nil_append] at p2
  cases hs : f64Sign x with
  | false =>
    rw [hs] at hb
    simp only [Bool.false_eq_true, if_false, Nat.zero_add] at hb
    rw [hb, p1]; rfl
  | true =>
    rw [hs] at hb
    simp only [if_true] at hb
    obtain ⟨n1, n2⟩ := f64OfBits_setSign b0 hlt
    rw [hv] at n1
    rw [hb, fmtFixed_fin _ p _ n1, n2, absRat_eq_abs, abs_neg, ← absRat_eq_abs, p2]

end Sfs
