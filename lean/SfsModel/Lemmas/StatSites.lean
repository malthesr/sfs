/-
Without projection, the records that `create` counts in cell `k` are the records whose site (`Spec.sitesOf`) is `k`,
so the sum of the contributions is the spectrum of the sites.
-/
import SfsModel.Spec.Stat
import SfsModel.Lemmas.Create
import SfsModel.Lemmas.StatGeno
namespace Sfs
open Sfs.Spec

/-- the site of one record, as `sitesOf` selects it -/
def recSite (cfg : SiteCfg) (r : Rec) : Option (List Nat) :=
  match r with
  | .gts _ _ l => match siteSpec cfg l with
    | some (.standard k) => some k
    | _ => none
  | .corrupt _ _ => none

theorem sitesOf_eq (cfg : SiteCfg) (recs : List Rec) : sitesOf cfg recs = recs.filterMap (recSite cfg) := rfl

theorem recSite_eq_some_iff (cfg : SiteCfg) (hnp : cfg.projectTo = none) (r : Rec) (hok : recOk cfg r = true) (k : List Nat) :
    recSite cfg r = some k ↔ countsAt cfg k r = true := by
  cases r with
  | corrupt a b => simp [recSite, countsAt, gtsOf]
  | gts a b l =>
    unfold recOk at hok
    simp only [recSite, countsAt, gtsOf] at hok ⊢
    rw [siteSpec_noproj cfg hnp l] at hok ⊢
    cases hp : hasPloidyError (selected cfg.map cfg.cols l)
    · cases hcmp : complete (selected cfg.map cfg.cols l) <;> simp
    · rw [hp] at hok; simp at hok

theorem sitesOf_count (cfg : SiteCfg) (hnp : cfg.projectTo = none) (recs : List Rec)
    (hok : ∀ r ∈ recs, recOk cfg r = true) (k : List Nat) :
    (sitesOf cfg recs).count k = (recs.filter (countsAt cfg k)).length := by
  rw [sitesOf_eq, count_filterMap]
  congr 1
  apply List.filter_congr
  intro r hr
  rw [Bool.eq_iff_iff, decide_eq_true_iff]
  exact recSite_eq_some_iff cfg hnp r (hok r hr) k

theorem sitesOf_inB (cfg : SiteCfg) (hnd : cfg.cols.Nodup) (recs : List Rec) (hwf : ∀ r ∈ recs, RecWf cfg r) :
    ∀ k ∈ sitesOf cfg recs, InB cfg.outShape k := by
  intro k hk
  rw [sitesOf_eq, List.mem_filterMap] at hk
  obtain ⟨r, hr, hs⟩ := hk
  have hw := hwf r hr
  cases r with
  | corrupt a b => cases hs
  | gts a b l =>
    simp only [recSite] at hs
    split at hs
    · next h => cases hs; exact standard_in_bounds cfg hnd l hw.1 hw.2 _ h
    · cases hs

theorem sumContrib_isSpectrumOf {α : Type} [Field α] (cfg : SiteCfg) (hc : CfgOk cfg) (hnp : cfg.projectTo = none)
    (recs : List Rec) (hwf : ∀ r ∈ recs, RecWf cfg r) (hok : ∀ r ∈ recs, recOk cfg r = true) :
    C06.IsSpectrumOf cfg.outShape (sitesOf cfg recs) (sumContrib (α := α) cfg recs) :=
  ⟨sumContrib_length cfg recs, sitesOf_inB cfg hc.cols_nodup recs hwf, fun k hk => by
    rw [sumContrib_noproj_getD cfg hc.cols_nodup hnp recs hwf hok k hk, sitesOf_count cfg hnp recs hok k]⟩

end Sfs
