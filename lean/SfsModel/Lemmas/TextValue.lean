/-
Re-reading a printed value: `{:.p}` prints the half-even rounded scaled integer `m` as `fmtScaled m p`, `splitDecimal`
reads `m` back, and `parseF64` returns the nearest binary64 of `m / 10^p` with the sign kept.
-/
import SfsModel.Lemmas.TextRoundtrip
import SfsModel.Lemmas.Nearest
namespace Sfs

theorem padDigits_length (n w : Nat) (hw : 0 < w) (h : n < 10 ^ w) : (padDigits n w).length = w := by
  have := (Nat.length_toDigits_le_iff (b := 10) (n := n) (k := w) (by decide) hw).2 h
  simp only [padDigits, List.length_append, List.length_replicate]
  omega

theorem digitsVal_padDigits (n w : Nat) : digitsVal (padDigits n w) = n := by
  simp only [padDigits, digitsVal_append, digitsVal_replicate_zero, digitsVal_toDigits]
  omega

theorem splitDecimal_digits (ip : List Char) (hne : ip ≠ []) (h : ∀ c ∈ ip, c.isDigit = true) :
    splitDecimal ip = some (ip, [], 0) := by
  have hs := takeWhile_append_stop Char.isDigit ip [] h (by simp)
  rw [List.append_nil] at hs
  have he : ip.isEmpty = false := List.isEmpty_eq_false_iff.2 hne
  unfold splitDecimal
  simp only [hs.1, hs.2, he, Bool.false_and, Bool.false_eq_true, if_false]

theorem splitDecimal_point (ip fp : List Char) (hne : ip ≠ []) (h : ∀ c ∈ ip, c.isDigit = true)
    (hf : ∀ c ∈ fp, c.isDigit = true) : splitDecimal (ip ++ '.' :: fp) = some (ip, fp, 0) := by
  have hs := takeWhile_append_stop Char.isDigit ip ('.' :: fp) h (by simp)
  have hs2 := takeWhile_append_stop Char.isDigit fp [] hf (by simp)
  rw [List.append_nil] at hs2
  have he : ip.isEmpty = false := List.isEmpty_eq_false_iff.2 hne
  unfold splitDecimal
  simp only [hs.1, hs.2, hs2.1, hs2.2, he, Bool.false_and, Bool.false_eq_true, if_false]

theorem splitDecimal_fmtScaled (m p : Nat) :
    ∃ ip fp, splitDecimal (fmtScaled m p) = some (ip, fp, 0) ∧ fp.length = p ∧ digitsVal (ip ++ fp) = m := by
  unfold fmtScaled
  by_cases hp : p = 0
  · subst hp
    refine ⟨Nat.toDigits 10 (m / 10 ^ 0), [], ?_, rfl, ?_⟩
    · rw [if_pos rfl]
      exact splitDecimal_digits _ (showNat_ne_nil _) (toDigits_isDigit _)
    · rw [List.append_nil, digitsVal_toDigits]; simp
  · rw [if_neg hp]
    have hl := padDigits_length (m % 10 ^ p) p (by omega) (Nat.mod_lt _ (Nat.pow_pos (by decide)))
    refine ⟨Nat.toDigits 10 (m / 10 ^ p), padDigits (m % 10 ^ p) p, ?_, hl, ?_⟩
    · exact splitDecimal_point _ _ (showNat_ne_nil _) (toDigits_isDigit _) padDigits_isDigit
    · rw [digitsVal_append, hl, digitsVal_toDigits, digitsVal_padDigits]
      exact Nat.div_add_mod m (10 ^ p)

/-- the numeric branch of `parseF64` for a given sign pattern. -/
def parseNum (sign : Nat) (body : List Char) : Option Nat :=
  match splitDecimal body with
    | none => none
    | some (ip, fp, e) =>
      let mant := digitsVal (ip ++ fp)
      let e10 : Int := e - (fp.length : Int)
      if mant = 0 then some sign
      else
        let digits : Int := ((Nat.toDigits 10 mant).length : Int)
        if e10 + digits > 400 then some (sign + 2047 * 2 ^ 52)
        else if e10 + digits < -400 then some sign
        else
          let q : Rat := if e10 ≥ 0 then (mant * 10 ^ e10.toNat : Nat) else (mant : Rat) / ((10 ^ (-e10).toNat : Nat) : Rat)
          some (sign + f64BitsOfRatNonneg q)

/-- a finite binary64 is below `2^1024`, so its integer part has at most 309 digits: the reader's cut-off at exponent
    `+400` is never reached by a printed value. -/
theorem two_pow_1024_lt_ten_pow_309 : 2 ^ 1024 < 10 ^ 309 := by decide +kernel

/-- half the smallest subnormal is `2^-1075`: below the reader's cut-off at exponent `-400` the conversion gives zero too. -/
theorem two_pow_1075_le_ten_pow_401 : 2 * 2 ^ 1074 ≤ 10 ^ 401 := by decide +kernel

set_option exponentiation.threshold 2000 in
theorem parseNum_fmtScaled {sign m p : Nat} (hm : m ≤ 2 ^ 1024 * 10 ^ p) :
    parseNum sign (fmtScaled m p) = some (sign + f64BitsOfRatNonneg ((m : Rat) / ((10 ^ p : Nat) : Rat))) := by
  obtain ⟨ip, fp, hs, hl, hv⟩ := splitDecimal_fmtScaled m p
  have hT : 0 < 10 ^ p := Nat.pow_pos (by decide)
  have hT' : (0 : Rat) < ((10 ^ p : Nat) : Rat) := by exact_mod_cast hT
  unfold parseNum
  simp only [hs, hv, hl]
  by_cases hm0 : m = 0
  · subst hm0
    rw [if_pos rfl, f64BitsOfRatNonneg_of_nonpos _ (by simp)]
    rfl
  rw [if_neg hm0]
  have hLpos : 0 < (Nat.toDigits 10 m).length := Nat.length_toDigits_pos
  have hL1 : (Nat.toDigits 10 m).length ≤ 309 + p := by
    rw [Nat.length_toDigits_le_iff (by decide) (by omega), Nat.pow_add]
    exact Nat.lt_of_le_of_lt hm (Nat.mul_lt_mul_of_pos_right two_pow_1024_lt_ten_pow_309 hT)
  have hL2 : m < 10 ^ (Nat.toDigits 10 m).length :=
    (Nat.length_toDigits_le_iff (by decide) hLpos).1 (Nat.le_refl _)
  -- the `+400` cut-off is not reached: exponent `0 - p` plus at most `309 + p` digits
  rw [if_neg (by omega)]
  split
  · rename_i hg
    -- below `10^-401`: the reader answers zero without converting, and so would the conversion
    have hx0 : (0 : Rat) < (m : Rat) / ((10 ^ p : Nat) : Rat) :=
      div_pos (by exact_mod_cast Nat.pos_of_ne_zero hm0) hT'
    have hlt : m * (2 * 2 ^ 1074) < 10 ^ p := by
      have h1 : (Nat.toDigits 10 m).length + 401 ≤ p := by omega
      calc m * (2 * 2 ^ 1074) < 10 ^ (Nat.toDigits 10 m).length * 10 ^ 401 :=
            Nat.mul_lt_mul_of_lt_of_le hL2 two_pow_1075_le_ten_pow_401 (Nat.pow_pos (by decide))
        _ = 10 ^ ((Nat.toDigits 10 m).length + 401) := (Nat.pow_add _ _ _).symm
        _ ≤ 10 ^ p := Nat.pow_le_pow_right (by decide) h1
    have hc : (2 : Rat) ^ (1075 : Int) = ((2 * 2 ^ 1074 : Nat) : Rat) := by
      rw [Nat.cast_mul, natCast_two_pow, Nat.cast_ofNat, Nat.cast_ofNat, ← zpow_one_add₀ (by norm_num)]; norm_num
    rw [f64BitsOfRatNonneg_tiny _ hx0 (by rw [hc, div_mul_eq_mul_div, div_lt_one hT']; exact_mod_cast hlt)]
    rfl
  · -- between the cut-offs the reader forms `q`: as the natural `m · 10^0` when `p = 0`, as `m / 10^p` otherwise
    by_cases hp : p = 0
    · subst hp; simp
    · rw [if_neg (by omega), show (-((0 : Int) - (p : Int))).toNat = p by omega]

theorem lower_of_isDigit {c : Char} (h : c.isDigit = true) : lower c = c := by
  have := isDigit_toNat h
  unfold lower
  rw [if_neg]
  rintro ⟨h1, _⟩
  have : 'A'.toNat ≤ c.toNat := h1
  simp at this
  omega

theorem digit_head_not_word (c : Char) (t : List Char) (hc : c.isDigit = true) :
    ¬ ((c :: t).map lower = "inf".toList ∨ (c :: t).map lower = "infinity".toList) ∧
    ¬ ((c :: t).map lower = "nan".toList) := by
  rw [List.map_cons, lower_of_isDigit hc]
  refine ⟨?_, ?_⟩
  · rintro (h | h) <;> exact isDigit_ne hc (by decide) (List.cons.inj h).1
  · intro h
    exact isDigit_ne hc (by decide) (List.cons.inj h).1

theorem parseF64_digit_head (c : Char) (t : List Char) (hc : c.isDigit = true) :
    parseF64 (c :: t) = parseNum 0 (c :: t) := by
  obtain ⟨hw1, hw2⟩ := digit_head_not_word c t hc
  unfold parseF64 parseNum
  split
  rename_i x neg r4 heq
  split at heq
  · exact absurd (List.cons.inj ‹_ = _›).1 (isDigit_ne hc (by decide))
  · exact absurd (List.cons.inj ‹_ = _›).1 (isDigit_ne hc (by decide))
  obtain ⟨rfl, rfl⟩ := Prod.mk.inj heq.symm
  simp only [hw1, hw2, if_false, Bool.false_eq_true]
  rfl

theorem parseF64_neg_digit_head (c : Char) (t : List Char) (hc : c.isDigit = true) :
    parseF64 ('-' :: c :: t) = parseNum (2 ^ 63) (c :: t) := by
  obtain ⟨hw1, hw2⟩ := digit_head_not_word c t hc
  unfold parseF64 parseNum
  simp only [hw1, hw2, if_false, if_true]
  rfl

theorem parseF64_fmtFixed_fin (b p : Nat) (q : Rat) (hf : f64OfBits b = .fin q) :
    parseF64 (fmtFixed b p) =
      some ((if f64Sign b then 2 ^ 63 else 0) +
        f64BitsOfRatNonneg ((roundHE ((absRat q).num.natAbs * 10 ^ p) (absRat q).den : Rat) / ((10 ^ p : Nat) : Rat))) := by
  have h0 : 0 ≤ absRat q := by rw [absRat_eq_abs]; exact abs_nonneg q
  have hle : roundHE ((absRat q).num.natAbs * 10 ^ p) (absRat q).den ≤ 2 ^ 1024 * 10 ^ p :=
    roundHE_le (absRat q).den_pos (natAbs_mul_div_den _ h0 _) _ (by
      rw [Nat.cast_mul]
      exact mul_le_mul_of_nonneg_right (f64OfBits_fin_lt b q hf).le (Nat.cast_nonneg _))
  obtain ⟨c, t, hct, hc⟩ := fmtScaled_head (roundHE ((absRat q).num.natAbs * 10 ^ p) (absRat q).den) p
  rw [fmtFixed_fin b p q hf, fmtRatFixed_eq]
  cases f64Sign b
  · rw [if_neg (by decide), if_neg (by decide), List.nil_append, hct, parseF64_digit_head c t hc, ← hct,
      parseNum_fmtScaled hle]
  · rw [if_pos rfl, if_pos rfl, List.singleton_append, hct, parseF64_neg_digit_head c t hc, ← hct,
      parseNum_fmtScaled hle]

theorem parseF64_fmtFixed_some (b p : Nat) : ∃ v, parseF64 (fmtFixed b p) = some v := by
  cases h : f64OfBits b with
  | fin q => exact ⟨_, parseF64_fmtFixed_fin b p q h⟩
  | nan => rw [fmtFixed_nan b p h]; exact ⟨_, parseF64_NaN⟩
  | inf s =>
    rw [fmtFixed_inf b p s h]
    cases s
    · exact ⟨_, parseF64_inf⟩
    · exact ⟨_, parseF64_neg_inf⟩

theorem readText_writeText (shape bits : List Nat) (p : Nat) (hne : shape ≠ [])
    (hb : ∀ v ∈ shape, v < 2 ^ 64) (hcs : checkedSize shape = some bits.length) :
    ∃ bits', readText (asciiBytes (writeText shape bits p)) = .ok (shape, bits') ∧
      bits'.map some = bits.map (fun b => parseF64 (fmtFixed b p)) := by
  have hg : ∀ b ∈ bits, parseF64 (fmtFixed b p) = some ((parseF64 (fmtFixed b p)).getD 0) := by
    intro b _
    obtain ⟨v, hv⟩ := parseF64_fmtFixed_some b p
    rw [hv]; rfl
  refine ⟨bits.map (fun b => (parseF64 (fmtFixed b p)).getD 0), ?_, ?_⟩
  · rw [readText_written shape bits p hne hb, mapM_map_some _ _ _ bits hg]
    simp only [List.length_map, hcs, if_true]
  · rw [List.map_map]
    exact List.map_congr_left fun b hb' => (hg b hb').symm

/-- `counts.map (fun c => g (c : Rat))` with an unannotated binder elaborates to a map over the list coerced through the
    `List` monad; this is the plain map over the casts. -/
theorem it_coe (counts : List Nat) :
    (counts >>= fun (a : Nat) => (pure (a : Rat) : List Rat)) = List.map (fun (a : Nat) => (a : Rat)) counts := by
  induction counts with
  | nil => rfl
  | cons a r ih => simpa using ih

theorem it_map_coe (counts : List Nat) (f : Rat → Nat) :
    List.map f (counts >>= fun (a : Nat) => (pure (a : Rat) : List Rat)) =
      List.map (fun (a : Nat) => f (a : Rat)) counts := by
  rw [it_coe, List.map_map]; rfl

end Sfs
