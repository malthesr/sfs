/-
Between the codecs and `createFromBytesC`: the plain encoders write values below 2³² (what the BGZF layer asks of a payload); on
an encoded container detection picks the container written and decoding returns the call set.
-/
import SfsModel.Lemmas.VcfCodec
import SfsModel.Lemmas.BcfCodec
import SfsModel.Lemmas.Detect
namespace Sfs

theorem allLt_map_toNat (l : List Char) : AllLt (2 ^ 32) (l.map Char.toNat) := by
  intro b hb
  obtain ⟨c, _, rfl⟩ := List.mem_map.1 hb
  exact UInt32.toNat_lt c.val

theorem allLt_strBytes (s : String) : AllLt (2 ^ 32) (strBytes s) := allLt_map_toNat _

theorem allLt_joinTab (ls : List String) : AllLt (2 ^ 32) (joinTab (ls.map strBytes)) := by
  intro b hb
  rcases mem_joinTab hb with rfl | ⟨l, hl, hbl⟩
  · omega
  · obtain ⟨s, _, rfl⟩ := List.mem_map.1 hl
    exact allLt_strBytes s b hbl

/-- The proof terms of `allLt_headerText`, `allLt_vcfEncode` and `allLt_bcfEncode` follow the `++` of the encoder, piece by
    piece. -/
theorem allLt_headerText (cols contigs : List String) : AllLt (2 ^ 32) (headerText cols contigs) :=
  (((((allLt_strBytes _).append (AllLt.flatMap fun _ _ => ((allLt_strBytes _).append (allLt_strBytes _)).append
    (allLt_strBytes _))).append (allLt_strBytes _)).append (allLt_strBytes _)).append (allLt_joinTab _)).append
    (allLt_of_bytes (by decide))

theorem allLt_renderGt (g : GtRes) : AllLt (2 ^ 32) (renderGt g) := by
  unfold renderGt
  split <;> exact allLt_strBytes _

theorem allLt_vcfEncode (cols contigs : List String) (recs : List (String × Nat × List GtRes)) :
    AllLt (2 ^ 32) (vcfEncode cols contigs recs) :=
  (allLt_headerText cols contigs).append (AllLt.flatMap fun _ _ =>
    (((((allLt_strBytes _).append (allLt_of_bytes (by decide))).append (allLt_map_toNat _)).append (allLt_strBytes _)).append
      (AllLt.flatMap fun g _ => AllLt.append (a := [9]) (allLt_of_bytes (by decide)) (allLt_renderGt g))).append
      (allLt_of_bytes (by decide)))

theorem allLt_toLe32 (n : Nat) : AllLt (2 ^ 32) (toLe32 n) :=
  allLt_of_bytes (toLe32_eq_leBytes n ▸ leBytes_lt 4 n)

theorem allLt_renderGtBcf (g : GtRes) : AllLt (2 ^ 32) (renderGtBcf g) := by
  unfold renderGtBcf
  split <;> exact allLt_of_bytes (by decide)

theorem allLt_bcfEncode (cols contigs : List String) (recs : List (String × Nat × List GtRes)) :
    AllLt (2 ^ 32) (bcfEncode cols contigs recs) := by
  have hshared (ci p : Nat) : AllLt (2 ^ 32) (bcfShared ci p cols.length) :=
    ((((((allLt_toLe32 _).append (allLt_toLe32 _)).append (allLt_toLe32 _)).append (allLt_of_bytes (by decide))).append
      (allLt_toLe32 _)).append (allLt_toLe32 _)).append (allLt_of_bytes (by decide))
  have hindiv (gts : List GtRes) : AllLt (2 ^ 32) (bcfIndivBytes gts) :=
    (allLt_of_bytes (by decide)).append (AllLt.flatMap fun g _ => allLt_renderGtBcf g)
  exact (((allLt_of_bytes (by decide)).append (allLt_toLe32 _)).append ((allLt_headerText cols contigs).append
    (allLt_of_bytes (by decide)))).append (AllLt.flatMap fun r _ => bcfEncodeRec_eq .. ▸
      (((allLt_toLe32 _).append (allLt_toLe32 _)).append (hshared _ _)).append (hindiv r.2.2))

theorem chunkBytes_flatten (n : Nat) (hn : 1 ≤ n) : ∀ (fuel : Nat) (l : List Nat), l.length ≤ fuel →
    (chunkBytes n fuel l).flatten = l := by
  intro fuel
  induction fuel with
  | zero =>
    intro l h
    have : l = [] := List.eq_nil_of_length_eq_zero (by omega)
    subst this; rfl
  | succ f ih =>
    intro l h
    rw [chunkBytes]
    split
    · next he => rw [List.isEmpty_iff.1 he]; rfl
    · rw [List.flatten_cons, ih (l.drop n) (by rw [List.length_drop]; omega), List.take_append_drop]

theorem chunkBytes_mem (n : Nat) : ∀ (fuel : Nat) (l : List Nat), ∀ c ∈ chunkBytes n fuel l,
    c.length ≤ n ∧ ∀ b ∈ c, b ∈ l := by
  intro fuel
  induction fuel with
  | zero => intro l c hc; simp [chunkBytes] at hc
  | succ f ih =>
    intro l c hc
    rw [chunkBytes] at hc
    split at hc
    · simp at hc
    · rcases List.mem_cons.1 hc with rfl | hc'
      · exact ⟨by rw [List.length_take]; omega, fun b hb => List.mem_of_mem_take hb⟩
      · obtain ⟨h1, h2⟩ := ih _ c hc'
        exact ⟨h1, fun b hb => List.mem_of_mem_drop (h2 b hb)⟩

theorem bgzfDecodeAll_chunkBytes (blk : Nat) (hblk : 1 ≤ blk ∧ blk ≤ 65280) (p : List Nat) (hp : AllLt (2 ^ 32) p) :
    bgzfDecodeAll (bgzfEncodeStored (chunkBytes blk p.length p)) = some p := by
  rw [bgzfDecodeAll_encodeStored _ (fun c hc => by
    obtain ⟨h1, h2⟩ := chunkBytes_mem blk p.length p c hc
    exact ⟨fun b hb => hp b (h2 b hb), by omega⟩)]
  rw [chunkBytes_flatten blk hblk.1 p.length p (Nat.le_refl _)]

theorem inflate3_chunkBytes (blk : Nat) (hblk : 3 ≤ blk ∧ blk ≤ 65280) (p : List Nat) (hp : AllLt (2 ^ 32) p)
    (h3 : 3 ≤ p.length) :
    gzipMagic.isPrefixOf ((bgzfEncodeStored (chunkBytes blk p.length p)).take 65536) = true ∧
      inflate3 ((bgzfEncodeStored (chunkBytes blk p.length p)).take 65536) = some (p.take 3) := by
  obtain ⟨f, hf⟩ : ∃ f, p.length = f + 1 := ⟨p.length - 1, by omega⟩
  have hne : p.isEmpty = false := List.isEmpty_eq_false_iff.2 (List.ne_nil_of_length_pos (by omega))
  rw [hf, chunkBytes, hne, if_neg Bool.false_ne_true, bgzfEncodeStored_cons]
  refine ⟨by rw [bgzfFrame_eq]; rfl, ?_⟩
  rw [← bgzfEncodeStored_cons, inflate3_encodeStored _ _ (fun b hb => hp b (List.mem_of_mem_take hb))
    ⟨by rw [List.length_take]; omega, by rw [List.length_take]; omega⟩, List.take_take, Nat.min_eq_left hblk.1]

theorem vcfEncode_head (cols contigs : List String) (recs : List (String × Nat × List GtRes)) :
    ∃ rest, vcfEncode cols contigs recs = 35 :: 35 :: 102 :: rest := by
  unfold vcfEncode headerText
  rw [fileformatLine_eq]
  exact ⟨_, rfl⟩

theorem bcfEncode_head (cols contigs : List String) (recs : List (String × Nat × List GtRes)) :
    ∃ rest, bcfEncode cols contigs recs = 66 :: 67 :: 70 :: rest := ⟨_, rfl⟩

theorem detectContainer_encodeContainer (blk : Nat) (hblk : 3 ≤ blk ∧ blk ≤ 65280) (cols contigs : List String)
    (recs : List (String × Nat × List GtRes)) (c : Container) :
    detectContainer inflate3 ((encodeContainer blk cols contigs recs c).take 65536) = .ok c := by
  obtain ⟨rv, hv⟩ := vcfEncode_head cols contigs recs
  obtain ⟨rb, hb⟩ := bcfEncode_head cols contigs recs
  have hgz (p : List Nat) (hp : AllLt (2 ^ 32) p) (h3 : 3 ≤ p.length) :
      detectContainer inflate3 ((bgzfEncodeStored (chunkBytes blk p.length p)).take 65536) =
        .ok (if p.take 3 = bcfMagic then .bcfGz else .vcfGz) :=
    detectContainer_gz inflate3 _ _ (inflate3_chunkBytes blk hblk p hp h3).1 (inflate3_chunkBytes blk hblk p hp h3).2
  cases c with
  | vcf => simp only [encodeContainer, hv]; rfl
  | bcfRaw => simp only [encodeContainer, hb]; rfl
  | vcfGz =>
    simp only [encodeContainer]
    rw [hgz _ (allLt_vcfEncode cols contigs recs) (by rw [hv]; simp), hv]
    rfl
  | bcfGz =>
    simp only [encodeContainer]
    rw [hgz _ (allLt_bcfEncode cols contigs recs) (by rw [hb]; simp), hb]
    rfl

theorem decodeContainer_encodeContainer (blk : Nat) (hblk : 1 ≤ blk ∧ blk ≤ 65280) (cols contigs : List String)
    (recs : List (String × Nat × List GtRes)) (h : WfCallSet cols contigs recs) (hs : FitsBcf cols contigs recs)
    (c : Container) :
    decodeContainer c (encodeContainer blk cols contigs recs c) = some (cols, toRecs recs) := by
  cases c <;> simp only [decodeContainer, encodeContainer, bgzfDecodeAll_chunkBytes blk hblk _ (allLt_vcfEncode cols contigs recs),
    bgzfDecodeAll_chunkBytes blk hblk _ (allLt_bcfEncode cols contigs recs), Option.bind_some,
    vcfDecode_vcfEncode cols contigs recs h, bcfDecode_bcfEncode cols contigs recs h hs]

end Sfs
