/-
Marginalization: removing sorted axes one `Array::sum` at a time is a chain of push-forwards along `removeAt · x`; two
in a row are one (`sum_push`) and `removeAt · x` followed by `dropIdx` is `dropIdx` (`dropIdx_removeAt`), so the result
is `IsMarg`. `marginalize_spec` is the interface.
-/
import SfsModel.Model.Spectrum
import SfsModel.Lemmas.SumBox
import SfsModel.Lemmas.SumAxis
import Mathlib.Algebra.BigOperators.Ring.Finset
namespace Sfs
open Finset

/-- `dropFrom A l n`: delete from `l` the entries whose position (counted from `n`) is listed in `A`. -/
def dropFrom {β} (A : List Nat) (l : List β) (n : Nat) : List β :=
  ((l.zipIdx n).filter (fun p => !A.contains p.2)).map (·.1)

/-- `dropFrom` from position 0 (`C04.dropAxes` of Props/C04 is the same function). -/
def dropIdx {β} (A : List Nat) (l : List β) : List β := dropFrom A l 0

theorem dropFrom_nil {β} (A : List Nat) (n : Nat) : dropFrom A ([] : List β) n = [] := rfl

theorem dropFrom_cons {β} (A : List Nat) (y : β) (l : List β) (n : Nat) :
    dropFrom A (y :: l) n = if n ∈ A then dropFrom A l (n + 1) else y :: dropFrom A l (n + 1) := by
  unfold dropFrom
  by_cases h : n ∈ A <;> simp [h]

theorem dropFrom_map {β γ} (A : List Nat) (g : β → γ) : ∀ (l : List β) (n : Nat),
    dropFrom A (l.map g) n = (dropFrom A l n).map g
  | [], _ => rfl
  | _ :: l, n => by
    simp only [List.map_cons, dropFrom_cons, dropFrom_map A g l]
    split <;> rfl

theorem dropFrom_congr {β} (A B : List Nat) : ∀ (l : List β) (n m : Nat),
    (∀ i, i < l.length → (n + i ∈ A ↔ m + i ∈ B)) → dropFrom A l n = dropFrom B l m
  | [], _, _, _ => rfl
  | y :: l, n, m, h => by
    rw [dropFrom_cons, dropFrom_cons, dropFrom_congr A B l (n + 1) (m + 1) fun i hi => by
      rw [Nat.add_right_comm n 1 i, Nat.add_right_comm m 1 i]
      exact h (i + 1) (Nat.succ_lt_succ hi)]
    exact if_congr (h 0 (Nat.succ_pos _)) rfl rfl

/-- `B` names position `x` (counted from `n`), and otherwise the positions `A` names in the list without it. -/
theorem dropFrom_removeAt {β} (A B : List Nat) : ∀ (l : List β) (x n : Nat),
    (∀ i, i < x → (n + i ∈ A ↔ n + i ∈ B)) → n + x ∈ B →
    (∀ i, x ≤ i → (n + i ∈ A ↔ n + i + 1 ∈ B)) →
    dropFrom A (removeAt l x) n = dropFrom B l n
  | [], x, n, _, _, _ => by simp [removeAt, dropFrom_nil]
  | y :: l, 0, n, _, h2, h3 => by
    rw [removeAt_zero, dropFrom_cons, if_pos (show n ∈ B from h2)]
    exact dropFrom_congr A B l n (n + 1) fun i _ => by
      rw [Nat.add_right_comm n 1 i]
      exact h3 i (Nat.zero_le _)
  | y :: l, x + 1, n, h1, h2, h3 => by
    rw [removeAt_succ, dropFrom_cons, dropFrom_cons, dropFrom_removeAt A B l x (n + 1)
      (fun i hi => by rw [Nat.add_right_comm n 1 i]; exact h1 (i + 1) (Nat.succ_lt_succ hi))
      (by rw [Nat.add_right_comm n 1 x]; exact h2)
      (fun i hi => by rw [Nat.add_right_comm n 1 i]; exact h3 (i + 1) (Nat.succ_le_succ hi))]
    exact if_congr (h1 0 (Nat.succ_pos _)) rfl rfl

theorem dropIdx_nil_left {β} (l : List β) : dropIdx [] l = l := by
  unfold dropIdx
  generalize 0 = n
  induction l generalizing n with
  | nil => rfl
  | cons y l ih => rw [dropFrom_cons, if_neg (by simp), ih]

theorem dropIdx_congr {β} (A B : List Nat) (l : List β) (h : ∀ i, i ∈ A ↔ i ∈ B) :
    dropIdx A l = dropIdx B l :=
  dropFrom_congr A B l 0 0 (fun i _ => by rw [Nat.zero_add]; exact h i)

/-- The position of `y ≠ x` once position `x` is gone: below `x` unchanged, above it one less. -/
def shiftPast (x y : Nat) : Nat := if y > x then y - 1 else y

theorem mem_map_shift {x : Nat} {A : List Nat} (hx : x ∉ A) (i : Nat) :
    i ∈ A.map (shiftPast x) ↔ if i < x then i ∈ A else i + 1 ∈ A := by
  simp only [List.mem_map, shiftPast]
  constructor
  · rintro ⟨y, hy, rfl⟩
    by_cases hyx : y > x
    · rw [if_pos hyx, if_neg (by omega), show y - 1 + 1 = y by omega]; exact hy
    · have : y ≠ x := fun h => hx (h ▸ hy)
      rw [if_neg hyx, if_pos (by omega)]; exact hy
  · split
    · exact fun h => ⟨i, h, if_neg (by omega)⟩
    · exact fun h => ⟨i + 1, h, by rw [if_pos (by omega)]; rfl⟩

theorem shift_lt {x p q : Nat} (hp : p ≠ x) (hq : q ≠ x) (h : p < q) :
    shiftPast x p < shiftPast x q := by
  unfold shiftPast
  split <;> split <;> omega

theorem dropIdx_removeAt {β} (x : Nat) (A : List Nat) (hx : x ∉ A) (l : List β) :
    dropIdx (A.map (shiftPast x)) (removeAt l x) = dropIdx (x :: A) l := by
  apply dropFrom_removeAt
  · intro i hi
    rw [Nat.zero_add, mem_map_shift hx, if_pos hi, List.mem_cons]
    exact ⟨Or.inr, fun h => h.resolve_left (Nat.ne_of_lt hi)⟩
  · rw [Nat.zero_add]; exact List.mem_cons_self
  · intro i hi
    rw [Nat.zero_add, mem_map_shift hx, if_neg (Nat.not_lt.mpr hi), List.mem_cons]
    exact ⟨Or.inr, fun h => h.resolve_left (by omega)⟩

theorem dropIdx_singleton {β} (x : Nat) (l : List β) : dropIdx [x] l = removeAt l x := by
  have := dropIdx_removeAt x [] (by simp) l
  rw [List.map_nil, dropIdx_nil_left] at this
  exact this.symm

theorem dropFrom_inB (A : List Nat) : ∀ {s idx : List Nat} (n : Nat), InB s idx →
    InB (dropFrom A s n) (dropFrom A idx n)
  | [], [], _, _ => trivial
  | _ :: _, _ :: _, n, h => by
    rw [dropFrom_cons, dropFrom_cons]
    split
    · exact dropFrom_inB A (n + 1) h.2
    · exact ⟨h.1, dropFrom_inB A (n + 1) h.2⟩
  | [], _ :: _, _, h => h.elim
  | _ :: _, [], _, h => h.elim

theorem dropIdx_inB (A : List Nat) {s idx : List Nat} (h : InB s idx) : InB (dropIdx A s) (dropIdx A idx) :=
  dropFrom_inB A 0 h

theorem sum_indicator_comp {α} [AddCommMonoid α] (S S' : Nat) (P : Nat → Prop) [DecidablePred P]
    (g : Nat → α) (τ : Nat → Nat) (hτ : ∀ f, f < S → τ f < S') :
    ∑ t ∈ range S', (if P t then ∑ f ∈ range S, (if t = τ f then g f else 0) else 0)
      = ∑ f ∈ range S, if P (τ f) then g f else 0 := by
  -- under the inner indicator `P` may be read at `τ f`; then the sums are exchanged and one `t` survives
  have h1 : ∀ t ∈ range S', (if P t then ∑ f ∈ range S, (if t = τ f then g f else 0) else 0)
      = ∑ f ∈ range S, (if t = τ f then (if P (τ f) then g f else 0) else 0) := by
    intro t _
    by_cases hp : P t
    · rw [if_pos hp]
      refine Finset.sum_congr rfl fun f _ => ?_
      by_cases he : t = τ f
      · rw [if_pos he, if_pos he, if_pos (he ▸ hp)]
      · rw [if_neg he, if_neg he]
    · rw [if_neg hp]
      refine (Finset.sum_eq_zero fun f _ => ?_).symm
      by_cases he : t = τ f
      · rw [if_pos he, if_neg (he ▸ hp)]
      · rw [if_neg he]
  rw [Finset.sum_congr rfl h1, Finset.sum_comm]
  exact Finset.sum_congr rfl fun f hf => by
    rw [Finset.sum_ite_eq', if_pos (mem_range.mpr (hτ f (mem_range.mp hf)))]

/-- Pushing data forward along an index map `π` between two boxes: summing the image against an indicator `P` is
    summing the source against `P ∘ π`. `P = True` is conservation of the total. -/
theorem sum_push {α} [AddCommMonoid α] {s s' : List Nat} {π : List Nat → List Nat}
    (hπ : ∀ idx, InB s idx → InB s' (π idx)) (P : List Nat → Prop) [DecidablePred P] (g : Nat → α) :
    ∑ t ∈ range (size s'), (if P (unflat s' t) then
        ∑ f ∈ range (size s), (if π (unflat s f) = unflat s' t then g f else 0) else 0)
      = ∑ f ∈ range (size s), if P (π (unflat s f)) then g f else 0 := by
  have hb := fun f (hf : f ∈ range (size s)) => hπ _ (unflat_inB _ _ (mem_range.mp hf))
  -- in flat terms: `π (unflat s f) = unflat s' t` says that `t` is the position of `π (unflat s f)`
  rw [Finset.sum_congr rfl fun t ht => by
      rw [Finset.sum_congr rfl fun f hf => if_congr (unflat_eq_iff _ _ (hb f hf) t (mem_range.mp ht)) rfl rfl],
    sum_indicator_comp (size s) (size s') (fun t => P (unflat s' t)) g (fun f => flat s' (π (unflat s f)))
      fun f hf => flat_lt _ _ (hb f (mem_range.mpr hf))]
  exact Finset.sum_congr rfl fun f hf => by rw [unflat_flat _ _ (hb f hf)]

theorem marg_list_eq_map_getD {β} (l : List β) (d : β) : l = (List.range l.length).map (fun i => l.getD i d) :=
  list_eq_map_getD d l

theorem sumAxis_indicator {α} [AddCommMonoid α] (a : Arr α) (x : Nat)
    (hlen : a.data.length = size a.shape) (hx : x < a.shape.length) :
    (a.sumAxis x).data = (List.range (size (removeAt a.shape x))).map (fun t =>
      ∑ f ∈ range (size a.shape),
        if removeAt (unflat a.shape f) x = unflat (removeAt a.shape x) t then a.data.getD f 0 else 0) := by
  rw [sumAxis_data a x hlen hx]
  refine List.map_congr_left fun t ht => ?_
  have hk : InB (removeAt a.shape x) (unflat (removeAt a.shape x) t) := unflat_inB _ _ (List.mem_range.mp ht)
  have hkl : x ≤ (unflat (removeAt a.shape x) t).length := by
    rw [InB.length_eq hk, removeAt_length _ _ hx]; omega
  have hb := fun i (hi : i ∈ range (a.shape.getD x 0)) => insertAt_inB a.shape x _ i hx (mem_range.mp hi) hk
  rw [← Finset.sum_filter]
  refine Finset.sum_nbij' (fun i => flat a.shape (insertAt (unflat (removeAt a.shape x) t) x i))
    (fun f => (unflat a.shape f).getD x 0) (fun i hi => ?_) (fun f hf => ?_) (fun i hi => ?_) (fun f hf => ?_)
    (fun _ _ => rfl)
  · rw [mem_filter, mem_range, unflat_flat _ _ (hb i hi), removeAt_insertAt _ _ _ hkl]
    exact ⟨flat_lt _ _ (hb i hi), rfl⟩
  · exact mem_range.mpr (((InB_iff_getD _ _).mp (unflat_inB _ _ (mem_range.mp (mem_filter.mp hf).1))).2 x hx)
  · rw [unflat_flat _ _ (hb i hi), getD_insertAt _ _ _ _ hkl]
  · obtain ⟨hf, he⟩ := mem_filter.mp hf
    have hf := mem_range.mp hf
    rw [← he, insertAt_removeAt _ _ _ (by rw [InB.length_eq (unflat_inB _ _ hf)]; exact hx), flat_unflat _ _ hf]

theorem sumAxis_shape {α} [Add α] [OfNat α 0] (a : Arr α) (x : Nat) : (a.sumAxis x).shape = removeAt a.shape x := rfl

theorem sumAxis_data_length {α} [AddCommMonoid α] (a : Arr α) (x : Nat)
    (hlen : a.data.length = size a.shape) (hx : x < a.shape.length) :
    (a.sumAxis x).data.length = size (a.sumAxis x).shape := by
  rw [sumAxis_data a x hlen hx, List.length_map, List.length_range]
  rfl

/-- `b` is the marginal of `a` over the axes listed in `A`: shape = remaining axes in original order, entry `t` =
    sum of the entries of `a` whose index agrees with `t` on the remaining axes. -/
def IsMarg {α} [AddCommMonoid α] (A : List Nat) (a b : Arr α) : Prop :=
  b.shape = dropIdx A a.shape ∧
  b.data = (List.range (size (dropIdx A a.shape))).map (fun t =>
    ∑ f ∈ range (size a.shape),
      if dropIdx A (unflat a.shape f) = unflat (dropIdx A a.shape) t then a.data.getD f 0 else 0)

theorem IsMarg.unique {α} [AddCommMonoid α] {A : List Nat} {a b c : Arr α}
    (hb : IsMarg A a b) (hc : IsMarg A a c) : b = c :=
  Arr.ext (hb.2.trans hc.2.symm) (hb.1.trans hc.1.symm)

theorem IsMarg.congr {α} [AddCommMonoid α] {A B : List Nat} {a b : Arr α}
    (h : ∀ i, i ∈ A ↔ i ∈ B) (hb : IsMarg A a b) : IsMarg B a b := by
  unfold IsMarg at hb ⊢
  simp only [dropIdx_congr A B _ h] at hb
  exact hb

theorem IsMarg.data_length {α} [AddCommMonoid α] {A : List Nat} {a b : Arr α}
    (hb : IsMarg A a b) : b.data.length = size b.shape := by
  rw [hb.1, hb.2, List.length_map, List.length_range]

theorem IsMarg.mass {α} [AddCommMonoid α] {A : List Nat} {a b : Arr α} (hb : IsMarg A a b)
    (hlen : a.data.length = size a.shape) : b.data.sum = a.data.sum := by
  rw [hb.2, list_range_sum, list_sum_eq_range a.data, hlen]
  exact sum_push (s := a.shape) (fun _ => dropIdx_inB A) (fun _ => True) (fun f => a.data.getD f 0)

theorem IsMarg.sum_mul {α : Type} [Semiring α] {A : List Nat} {a b : Arr α} (hb : IsMarg A a b)
    (G : List Nat → α) :
    ∑ t ∈ range (size b.shape), b.data.getD t 0 * G (unflat b.shape t)
      = ∑ f ∈ range (size a.shape), a.data.getD f 0 * G (dropIdx A (unflat a.shape f)) := by
  have := sum_push (s := a.shape) (fun _ => dropIdx_inB A) (fun _ => True)
    (fun f => a.data.getD f 0 * G (dropIdx A (unflat a.shape f)))
  simp only [if_true] at this
  rw [hb.1, ← this]
  refine Finset.sum_congr rfl fun t ht => ?_
  rw [hb.2, getD_range_map, if_pos (mem_range.mp ht), Finset.sum_mul]
  refine Finset.sum_congr rfl fun f _ => ?_
  split
  · next he => rw [he]
  · exact zero_mul _

theorem IsMarg_nil {α} [AddCommMonoid α] {a : Arr α} (hlen : a.data.length = size a.shape) :
    IsMarg [] a a := by
  refine ⟨(dropIdx_nil_left _).symm, ?_⟩
  simp only [dropIdx_nil_left]
  refine ((hlen ▸ list_eq_map_getD 0 a.data).trans (List.map_congr_left fun t ht => ?_))
  have ht := List.mem_range.mp ht
  rw [Finset.sum_congr rfl fun f hf =>
      if_congr ⟨fun h => (unflat_inj _ f t (mem_range.mp hf) ht h).symm, fun h => h ▸ rfl⟩ rfl rfl,
    Finset.sum_ite_eq, if_pos (mem_range.mpr ht)]

theorem IsMarg_step {α} [AddCommMonoid α] {a c : Arr α} {x : Nat} {A : List Nat}
    (hlen : a.data.length = size a.shape) (hx : x < a.shape.length) (hxA : x ∉ A)
    (hc : IsMarg (A.map (shiftPast x)) (a.sumAxis x) c) :
    IsMarg (x :: A) a c := by
  obtain ⟨hcs, hcd⟩ := hc
  rw [sumAxis_shape] at hcs hcd
  simp only [dropIdx_removeAt x A hxA] at hcs hcd
  refine ⟨hcs, hcd.trans (List.map_congr_left fun u _ => ?_)⟩
  simp only [← dropIdx_removeAt x A hxA (unflat a.shape _)]
  -- the entries of `a.sumAxis x` written out: a push along `removeAt · x` under the indicator of the second push
  refine Eq.trans (Finset.sum_congr rfl fun t ht => ?_)
    (sum_push (π := (removeAt · x)) (fun _ h => removeAt_inB _ _ x h)
      (fun idx => dropIdx (A.map (shiftPast x)) idx = unflat (dropIdx (x :: A) a.shape) u)
      (fun f => a.data.getD f 0))
  rw [sumAxis_indicator a x hlen hx, getD_range_map, if_pos (mem_range.mp ht)]

theorem foldl_zipIdx_succ {α} [Add α] [OfNat α 0] : ∀ (xs : List Nat) (b : Arr α) (k : Nat),
    (xs.zipIdx (k + 1)).foldl (fun sp (p : Nat × Nat) => sp.sumAxis (p.1 - p.2)) b
      = ((xs.map (· - 1)).zipIdx k).foldl (fun sp (p : Nat × Nat) => sp.sumAxis (p.1 - p.2)) b
  | [], _, _ => rfl
  | y :: xs, b, k => by
    simp only [List.map_cons, List.zipIdx_cons, List.foldl_cons]
    rw [show y - (k + 1) = y - 1 - k by omega]
    exact foldl_zipIdx_succ xs _ (k + 1)

theorem marginalizeUnchecked_nil {α} [Add α] [OfNat α 0] (a : Arr α) : marginalizeUnchecked a [] = a := rfl

theorem marginalizeUnchecked_cons {α} [Add α] [OfNat α 0] (a : Arr α) (x : Nat) (xs : List Nat) :
    marginalizeUnchecked a (x :: xs) = marginalizeUnchecked (a.sumAxis x) (xs.map (· - 1)) := by
  unfold marginalizeUnchecked
  rw [List.zipIdx_cons, List.foldl_cons, Nat.zero_add, foldl_zipIdx_succ]
  rfl

theorem shift_nodup_and_lt (x : Nat) (rest : List Nat) (n : Nat) (hnd : (x :: rest).Nodup)
    (hb : ∀ ax ∈ x :: rest, ax < n) :
    (rest.map (shiftPast x)).Nodup ∧
      ∀ ax ∈ rest.map (shiftPast x), ax < n - 1 := by
  have hxr : x ∉ rest := (List.nodup_cons.mp hnd).1
  have hne : ∀ p ∈ rest, p ≠ x := fun p hp h => hxr (h ▸ hp)
  have hx := hb x List.mem_cons_self
  refine ⟨(List.nodup_cons.mp hnd).2.map_on fun p hp q hq hpq => ?_, fun ax hax => ?_⟩
  · rcases Nat.lt_trichotomy p q with h | h | h
    · exact absurd hpq (Nat.ne_of_lt (shift_lt (hne p hp) (hne q hq) h))
    · exact h
    · exact absurd hpq (Nat.ne_of_gt (shift_lt (hne q hq) (hne p hp) h))
  · rw [mem_map_shift hxr] at hax
    split at hax
    · omega
    · have := hb _ (List.mem_cons_of_mem _ hax); omega

theorem marginalizeUnchecked_spec {α} [AddCommMonoid α] : ∀ (l : List Nat) (a : Arr α),
    l.Pairwise (· < ·) → (∀ y ∈ l, y < a.shape.length) → a.data.length = size a.shape →
    IsMarg l a (marginalizeUnchecked a l)
  | [], _, _, _, hlen => IsMarg_nil hlen
  | x :: xs, a, hp, hb, hlen => by
    have hx : x < a.shape.length := hb x List.mem_cons_self
    have hgt : ∀ y ∈ xs, x < y := (List.pairwise_cons.mp hp).1
    rw [marginalizeUnchecked_cons, show xs.map (· - 1) = xs.map (shiftPast x) from
      List.map_congr_left fun y hy => (if_pos (hgt y hy)).symm]
    refine IsMarg_step hlen hx (fun h => Nat.lt_irrefl _ (hgt x h))
      (marginalizeUnchecked_spec _ (a.sumAxis x) ?_ ?_ (sumAxis_data_length a x hlen hx))
    · exact List.pairwise_map.mpr ((List.pairwise_cons.mp hp).2.imp_of_mem fun hp' hq' h =>
        shift_lt (Nat.ne_of_gt (hgt _ hp')) (Nat.ne_of_gt (hgt _ hq')) h)
    · rw [sumAxis_shape, removeAt_length _ _ hx]
      exact (shift_nodup_and_lt x xs _ (hp.imp Nat.ne_of_lt) hb).2
-- the recursive call is on `xs.map (shiftPast x)`, not on a sub-term of the list
termination_by l => l.length
decreasing_by simp

theorem firstDuplicate_eq_none_iff : ∀ (l : List Nat), firstDuplicate l = none ↔ l.Nodup
  | [] => by simp [firstDuplicate]
  | x :: l => by
    have ih := firstDuplicate_eq_none_iff l
    by_cases h : x ∈ l
    · simp [firstDuplicate, h]
    · simp [firstDuplicate, h, ih]

theorem firstDuplicate_some_count : ∀ (l : List Nat) (d : Nat), firstDuplicate l = some d → 2 ≤ l.count d
  | [], d, h => by simp [firstDuplicate] at h
  | x :: l, d, h => by
    by_cases hx : x ∈ l
    · simp only [firstDuplicate, List.contains_eq_mem, hx, decide_true, if_true, Option.some.injEq] at h
      subst h
      have := List.count_pos_iff.mpr hx
      rw [List.count_cons_self]; omega
    · simp only [firstDuplicate, List.contains_eq_mem, hx, decide_false] at h
      have := firstDuplicate_some_count l d h
      have := List.count_le_count_cons (a := d) (b := x) (l := l)
      omega

theorem isSortedLe_iff : ∀ (l : List Nat), isSortedLe l = true ↔ l.Pairwise (· ≤ ·)
  | [] => by simp [isSortedLe]
  | [x] => by simp [isSortedLe]
  | x :: y :: l => by
    rw [← List.isChain_iff_pairwise, List.isChain_cons_cons, List.isChain_iff_pairwise, ← isSortedLe_iff (y :: l)]
    simp only [isSortedLe, Bool.and_eq_true, decide_eq_true_eq]

/-- `axes.sort()` is modelled by insertion sort: Mathlib's, so its permutation and sortedness facts apply. -/
theorem sortNat_eq_insertionSort : ∀ l : List Nat, sortNat l = l.insertionSort (· ≤ ·)
  | [] => rfl
  | x :: l => by
    have hins : ∀ m : List Nat, insertNat x m = m.orderedInsert (· ≤ ·) x := fun m => by
      induction m with
      | nil => rfl
      | cons y m ih => simp only [insertNat, List.orderedInsert, ih]
    rw [sortNat, sortNat_eq_insertionSort l, hins]
    rfl

theorem sortNat_perm (l : List Nat) : (sortNat l).Perm l :=
  sortNat_eq_insertionSort l ▸ List.perm_insertionSort _ l

theorem sortNat_sorted (l : List Nat) : (sortNat l).Pairwise (· ≤ ·) :=
  sortNat_eq_insertionSort l ▸ List.pairwise_insertionSort _ l

theorem sortNat_eq_self (l : List Nat) (h : l.Pairwise (· ≤ ·)) : sortNat l = l :=
  (sortNat_eq_insertionSort l).trans h.insertionSort_eq

theorem sortNat_eq_of_perm {l₁ l₂ : List Nat} (hp : l₁.Perm l₂) : sortNat l₁ = sortNat l₂ :=
  List.Perm.eq_of_pairwise (le := (· ≤ ·)) (fun _ _ _ _ h1 h2 => Nat.le_antisymm h1 h2) (sortNat_sorted l₁)
    (sortNat_sorted l₂) ((sortNat_perm l₁).trans (hp.trans (sortNat_perm l₂).symm))

theorem sortNat_strict (l : List Nat) (hnd : l.Nodup) : (sortNat l).Pairwise (· < ·) :=
  ((sortNat_sorted l).and ((sortNat_perm l).symm.nodup hnd)).imp fun ⟨hle, hne⟩ => Nat.lt_of_le_of_ne hle hne

/-- `marginalize` with its decisions named; the two `.ok` branches agree because sorting a sorted list does nothing. -/
theorem marginalize_eq {α} [Add α] [OfNat α 0] (a : Arr α) (axes : List Nat) :
    marginalize a axes =
      match firstDuplicate axes with
      | some d => .error (.duplicateAxis d)
      | none =>
        match axes.find? (fun ax => ax ≥ a.shape.length) with
        | some ax => .error (.axisOutOfBounds ax a.shape.length)
        | none =>
          if axes.length ≥ a.shape.length then .error (.tooManyAxes axes.length a.shape.length)
          else .ok (marginalizeUnchecked a (sortNat axes)) := by
  unfold marginalize
  by_cases hs : isSortedLe axes = true
  · simp only [if_pos hs, sortNat_eq_self axes ((isSortedLe_iff axes).mp hs)]; rfl
  · simp only [if_neg hs]; rfl

theorem find?_ge_eq_none {n : Nat} {axes : List Nat} :
    axes.find? (fun ax => decide (ax ≥ n)) = none ↔ ∀ ax ∈ axes, ax < n := by
  simp only [List.find?_eq_none, decide_eq_true_eq, Nat.not_le]

theorem marginalize_eq_ok_iff {α} [Add α] [OfNat α 0] (a b : Arr α) (axes : List Nat) :
    marginalize a axes = .ok b ↔
      (axes.Nodup ∧ (∀ ax ∈ axes, ax < a.shape.length) ∧ axes.length < a.shape.length) ∧
        b = marginalizeUnchecked a (sortNat axes) := by
  rw [marginalize_eq, ← firstDuplicate_eq_none_iff, ← find?_ge_eq_none]
  cases firstDuplicate axes with
  | some d => simp
  | none =>
    cases axes.find? (fun ax => decide (ax ≥ a.shape.length)) with
    | some ax => simp
    | none =>
      by_cases hl : axes.length ≥ a.shape.length
      · simp [hl]
      · simp [hl, Nat.lt_of_not_le hl, eq_comm]

theorem marginalize_ok {α} [Add α] [OfNat α 0] (a : Arr α) (axes : List Nat) (hnd : axes.Nodup)
    (hb : ∀ ax ∈ axes, ax < a.shape.length) (hl : axes.length < a.shape.length) :
    marginalize a axes = .ok (marginalizeUnchecked a (sortNat axes)) :=
  (marginalize_eq_ok_iff a _ axes).mpr ⟨⟨hnd, hb, hl⟩, rfl⟩

theorem marginalize_isMarg {α} [AddCommMonoid α] (a : Arr α) (axes : List Nat)
    (hlen : a.data.length = size a.shape) (hnd : axes.Nodup)
    (hb : ∀ ax ∈ axes, ax < a.shape.length) :
    IsMarg axes a (marginalizeUnchecked a (sortNat axes)) :=
  (marginalizeUnchecked_spec (sortNat axes) a (sortNat_strict axes hnd)
    (fun y hy => hb y ((sortNat_perm axes).subset hy)) hlen).congr (fun _ => (sortNat_perm axes).mem_iff)

theorem marginalize_spec {α} [AddCommMonoid α] (a b : Arr α) (axes : List Nat)
    (hlen : a.data.length = size a.shape) (h : marginalize a axes = .ok b) : IsMarg axes a b := by
  obtain ⟨⟨hnd, hb, _⟩, rfl⟩ := (marginalize_eq_ok_iff a b axes).mp h
  exact marginalize_isMarg a axes hlen hnd hb

theorem marginalize_single {α} [AddCommMonoid α] (a : Arr α) (x : Nat)
    (hx : x < a.shape.length) (hl : 1 < a.shape.length) : marginalize a [x] = .ok (a.sumAxis x) := by
  rw [marginalize_ok a [x] (List.nodup_singleton x) (fun ax h => List.mem_singleton.mp h ▸ hx) hl]
  rfl

theorem marginalize_cons {α} [AddCommMonoid α] (a : Arr α) (x : Nat) (rest : List Nat)
    (hlen : a.data.length = size a.shape) (hnd : (x :: rest).Nodup)
    (hb : ∀ ax ∈ x :: rest, ax < a.shape.length) (hl : (x :: rest).length < a.shape.length) :
    marginalize a (x :: rest) =
      (match marginalize a [x] with
       | .ok b => marginalize b (rest.map (shiftPast x))
       | .error e => .error e) := by
  have hx := hb x List.mem_cons_self
  have hshl : (a.sumAxis x).shape.length = a.shape.length - 1 := by rw [sumAxis_shape, removeAt_length _ _ hx]
  obtain ⟨hnd', hb'⟩ := shift_nodup_and_lt x rest a.shape.length hnd hb
  rw [← hshl] at hb'
  rw [List.length_cons] at hl
  -- both sides succeed; the results are marginals of `a` over `x :: rest`, the right one by `IsMarg_step`
  rw [marginalize_single a x hx (by omega), marginalize_ok a (x :: rest) hnd hb hl]
  show _ = marginalize (a.sumAxis x) _
  rw [marginalize_ok (a.sumAxis x) _ hnd' hb' (by rw [hshl, List.length_map]; omega)]
  exact congrArg _ ((marginalize_isMarg a _ hlen hnd hb).unique
    (IsMarg_step hlen hx (List.nodup_cons.mp hnd).1
      (marginalize_isMarg (a.sumAxis x) _ (sumAxis_data_length a x hlen hx) hnd' hb')))

end Sfs
