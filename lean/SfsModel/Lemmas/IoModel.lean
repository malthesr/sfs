/-
The two contracts over `Model/IoModel.lean`: one invariant (`Rd.Inv`) for the reader with or without a failure point, one
statement per side (`Rd.Takes`, `Wr.Appends`) of which the read and write operations are instances, differing in the number of
bytes only.
-/
import SfsModel.Model.IoModel
import SfsModel.Model.Detect
import SfsModel.Lemmas.ListAux
namespace Sfs

/-- The reader that never fails: the special case the statements of Props/C12 and C18 are phrased in. -/
def Rd.Ok (r : Rd) : Prop := r.avail ≤ r.data.length ∧ r.failAt = none

/-- The buffer lies inside the remaining data and in front of the failure point, which lies inside the data too (a
    failure point behind the end would never be reached). -/
def Rd.Inv (r : Rd) : Prop := r.avail ≤ r.data.length ∧ ∀ k, r.failAt = some k → r.avail ≤ k ∧ k ≤ r.data.length

theorem Rd.Ok.inv {r : Rd} (h : Rd.Ok r) : Rd.Inv r := ⟨h.1, fun k hk => by rw [h.2] at hk; cases hk⟩

theorem Rd.Inv.ok {r : Rd} (h : Rd.Inv r) (hf : r.failAt = none) : Rd.Ok r := ⟨h.1, hf⟩

theorem Rd.Inv.fresh (data sched : List Nat) : Rd.Inv { data := data, sched := sched, avail := 0, failAt := none } :=
  ⟨Nat.zero_le _, nofun⟩

theorem Rd.Inv.fresh_failing (data sched : List Nat) {k : Nat} (hk : k ≤ data.length) :
    Rd.Inv { data := data, sched := sched, avail := 0, failAt := some k } :=
  ⟨Nat.zero_le _, fun _ e => Option.some.inj e ▸ ⟨Nat.zero_le _, hk⟩⟩

/-- `r'` is `r` with `d` bytes gone. -/
structure Rd.After (r : Rd) (d : Nat) (r' : Rd) : Prop where
  inv : Rd.Inv r'
  data : r'.data = r.data.drop d
  failAt : r'.failAt = r.failAt.map (· - d)
  le : ∀ k, r.failAt = some k → d ≤ k

theorem Rd.After.refl {r : Rd} (h : Rd.Inv r) : Rd.After r 0 r :=
  ⟨h, rfl, by cases r.failAt <;> rfl, fun _ _ => Nat.zero_le _⟩

theorem Rd.After.trans {r r₁ r₂ : Rd} {c d : Nat} (h₁ : Rd.After r c r₁) (h₂ : Rd.After r₁ d r₂) : Rd.After r (c + d) r₂ := by
  refine ⟨h₂.inv, by rw [h₂.data, h₁.data, List.drop_drop], ?_, fun k hk => ?_⟩
  · rw [h₂.failAt, h₁.failAt, Option.map_map]; congr 1; funext k; exact Nat.sub_sub k c d
  · have := h₁.le k hk
    have := h₂.le (k - c) (by rw [h₁.failAt, hk]; rfl)
    omega

theorem Rd.After.isSome_failAt {r r' : Rd} {d : Nat} (h : Rd.After r d r') : r'.failAt.isSome = r.failAt.isSome := by
  rw [h.failAt]; cases r.failAt <;> rfl

/-- The state after a non-empty `fill_buf`: `a` bytes buffered, nothing consumed. -/
structure Rd.Filled (r : Rd) (a : Nat) (r' : Rd) : Prop where
  pos : 1 ≤ a
  avail : r'.avail = a
  inv : Rd.Inv r'
  data : r'.data = r.data
  failAt : r'.failAt = r.failAt

theorem Rd.Filled.le {r r' : Rd} {a : Nat} (h : Rd.Filled r a r') : a ≤ r.data.length := by
  rw [← h.avail, ← h.data]; exact h.inv.1

theorem Rd.Filled.length_take {r r' : Rd} {a : Nat} (h : Rd.Filled r a r') : (r.data.take a).length = a :=
  List.length_take_of_le h.le

theorem Rd.Filled.isEmpty_take {r r' : Rd} {a : Nat} (h : Rd.Filled r a r') : (r.data.take a).isEmpty = false :=
  List.isEmpty_eq_false_iff.2 (List.ne_nil_of_length_pos (by rw [h.length_take]; exact h.pos))

theorem Rd.Filled.consume {r r' : Rd} {a c : Nat} (h : Rd.Filled r a r') (hc : c ≤ a) : Rd.After r c (r'.consume c) := by
  refine ⟨⟨?_, fun k hk => ?_⟩, by rw [← h.data]; rfl, by rw [← h.failAt]; rfl,
    fun k hk => Nat.le_trans hc (h.avail ▸ (h.inv.2 k (h.failAt ▸ hk)).1)⟩
  · show r'.avail - c ≤ (r'.data.drop c).length
    rw [List.length_drop]
    exact Nat.sub_le_sub_right h.inv.1 c
  · obtain ⟨j, hj, rfl⟩ := Option.map_eq_some_iff.1 hk
    show r'.avail - c ≤ j - c ∧ j - c ≤ (r'.data.drop c).length
    rw [List.length_drop]
    exact ⟨Nat.sub_le_sub_right (h.inv.2 j hj).1 c, Nat.sub_le_sub_right (h.inv.2 j hj).2 c⟩

theorem Rd.fillBuf_spec (r : Rd) (h : Rd.Inv r) :
    (r.failAt = some 0 ∧ r.fillBuf = .error .io) ∨
    (r.failAt = none ∧ r.data = [] ∧ r.fillBuf = .ok ([], r)) ∨
    ∃ a r', r.fillBuf = .ok (r.data.take a, r') ∧ Rd.Filled r a r' := by
  unfold Rd.fillBuf
  by_cases hav : r.avail > 0
  · rw [if_pos hav]
    exact .inr (.inr ⟨_, r, rfl, { pos := hav, avail := rfl, inv := h, data := rfl, failAt := rfl }⟩)
  · rw [if_neg hav]
    rcases hf : r.failAt with _ | _ | k
    · cases hd : r.data with
      | nil => exact .inr (.inl ⟨rfl, rfl, rfl⟩)
      | cons x xs =>
        exact .inr (.inr ⟨_, _, rfl,
          { pos := Nat.le_min.2 ⟨Nat.le_max_left 1 _, Nat.succ_pos _⟩
            avail := rfl
            inv := ⟨Nat.min_le_right _ _, nofun⟩
            data := hd.symm
            failAt := hf.symm }⟩)
    · exact .inl ⟨rfl, rfl⟩
    · have hk := (h.2 _ hf).2
      have hpos : 0 < r.data.length := Nat.lt_of_lt_of_le (Nat.succ_pos k) hk
      simp only [List.isEmpty_eq_false_iff.2 (List.ne_nil_of_length_pos hpos), Bool.false_eq_true, if_false]
      exact .inr (.inr ⟨_, _, rfl,
        { pos := Nat.le_min.2 ⟨Nat.le_min.2 ⟨Nat.le_max_left 1 _, hpos⟩, Nat.succ_pos k⟩
          avail := rfl
          inv := ⟨Nat.le_trans (Nat.min_le_left _ _) (Nat.min_le_right _ _),
            fun j hj => by cases hj; exact ⟨Nat.min_le_right _ _, hk⟩⟩
          data := rfl
          failAt := hf.symm }⟩)

/-- how much of a buffer of `a ≥ 1` bytes an operation takes that wants `n + 1` -/
theorem min_succ_bounds {a : Nat} (h : 1 ≤ a) (n : Nat) : 1 ≤ min a (n + 1) ∧ min a (n + 1) ≤ a ∧ min a (n + 1) ≤ n + 1 :=
  ⟨Nat.le_min.2 ⟨h, Nat.succ_pos n⟩, Nat.min_le_left _ _, Nat.min_le_right _ _⟩

/-- `x` is what an operation returns through `r` that has to see the next `d` bytes of `r.data`: the I/O error if the
    failure point comes before the `d`-th byte; otherwise those bytes, the reader moved past them. Seeing the end of the
    stream counts as one byte more than there are (`take` stops at the end; under `Rd.Inv` a failing reader never gets that
    far). -/
def Rd.Takes (r : Rd) (d : Nat) (x : Except IoErr (List Nat × Rd)) : Prop :=
  (∃ k, r.failAt = some k ∧ k < d ∧ x = .error .io) ∨ ∃ r', x = .ok (r.data.take d, r') ∧ Rd.After r d r'

theorem Rd.Takes.zero {r : Rd} (h : Rd.Inv r) : Rd.Takes r 0 (.ok ([], r)) := .inr ⟨r, rfl, .refl h⟩

theorem Rd.Takes.fail {r : Rd} {d : Nat} (hf : r.failAt = some 0) (hd : 0 < d) : Rd.Takes r d (.error .io) :=
  .inl ⟨0, hf, hd, rfl⟩

theorem Rd.Takes.eof {r : Rd} (h : Rd.Inv r) (hf : r.failAt = none) (hd : r.data = []) (d : Nat) :
    Rd.Takes r d (.ok ([], r)) :=
  .inr ⟨r, by rw [hd, List.take_nil],
    { inv := h, data := by rw [hd, List.drop_nil], failAt := by rw [hf]; rfl, le := fun k hk => by rw [hf] at hk; cases hk }⟩

/-- One round of a read loop: the first `c` bytes are kept and consumed, the rest of the operation returns `x`. Stated with
    the `match` the loops unfold to, so that it closes their goals as it stands. -/
theorem Rd.Takes.step {r r₁ : Rd} {c d : Nat} {x} (h₁ : Rd.After r c r₁) (h : Rd.Takes r₁ d x) :
    Rd.Takes r (c + d) (match (generalizing := false) x with
      | .ok (more, r') => .ok (r.data.take c ++ more, r')
      | .error e => .error e) := by
  rcases h with ⟨k, hk, hlt, rfl⟩ | ⟨r', rfl, ha⟩
  · rw [h₁.failAt] at hk
    obtain ⟨j, hj, rfl⟩ := Option.map_eq_some_iff.1 hk
    have := h₁.le j hj
    exact .inl ⟨j, hj, by omega, rfl⟩
  · exact .inr ⟨r', by rw [List.take_add, h₁.data], h₁.trans ha⟩

theorem Rd.Takes.ok {r : Rd} {d x} (h : Rd.Takes r d x) (hok : Rd.Ok r) :
    ∃ r', x = .ok (r.data.take d, r') ∧ Rd.Ok r' ∧ r'.data = r.data.drop d := by
  rcases h with ⟨k, hk, _⟩ | ⟨r', he, hA⟩
  · rw [hok.2] at hk; cases hk
  · exact ⟨r', he, hA.inv.ok (by rw [hA.failAt, hok.2]; rfl), hA.data⟩

theorem Rd.Takes.io_of_end {r : Rd} {x} (h : Rd.Takes r (r.data.length + 1) x) (hI : Rd.Inv r) {k} (hf : r.failAt = some k) :
    x = .error .io := by
  rcases h with ⟨_, _, _, he⟩ | ⟨_, _, hA⟩
  · exact he
  · have := hA.le k hf; have := (hI.2 k hf).2; omega

/-- The opening of the loops that stop quietly at the end of the data: only the round on a non-empty buffer is their own. -/
theorem Rd.Takes.of_fillBuf {r : Rd} (h : Rd.Inv r) {d : Nat} (hd : 0 < d)
    {G : List Nat → Rd → Except IoErr (List Nat × Rd)}
    (hG : ∀ a r', Rd.Filled r a r' → Rd.Takes r d (G (r.data.take a) r')) :
    Rd.Takes r d (match r.fillBuf with
      | .error e => .error e
      | .ok (buf, r') => if buf.isEmpty then .ok ([], r') else G buf r') := by
  rcases r.fillBuf_spec h with ⟨hf, he⟩ | ⟨hf, hd', he⟩ | ⟨a, r', he, hF⟩
  · rw [he]; exact .fail hf hd
  · rw [he]; exact .eof h hf hd' _
  · rw [he]
    dsimp only
    rw [hF.isEmpty_take, if_neg Bool.false_ne_true]
    exact hG a r' hF

theorem Rd.readUpTo_takes (fuel : Nat) (r : Rd) (h : Rd.Inv r) (limit : Nat) (hfuel : limit ≤ fuel) :
    Rd.Takes r limit (r.readUpTo fuel limit) := by
  induction fuel generalizing r limit with
  | zero =>
    obtain rfl : limit = 0 := Nat.le_zero.1 hfuel
    exact .zero h
  | succ fuel ih =>
    cases limit with
    | zero => exact .zero h
    | succ n =>
      unfold Rd.readUpTo
      refine .of_fillBuf h (Nat.succ_pos _) fun a r' hF => ?_
      simp only [hF.length_take]
      obtain ⟨hc1, hca, hcn⟩ := min_succ_bounds hF.pos n
      -- the number of bytes taken in this round as an atom `c`: `omega` would split on the `min`
      generalize min a (n + 1) = c at hc1 hca hcn ⊢
      have := (ih _ (hF.consume hca).inv (n + 1 - c) (by omega)).step (hF.consume hca)
      rw [Nat.add_sub_cancel' hcn] at this
      rwa [List.take_take, Nat.min_eq_left hca]

/-- Under `Rd.Inv` the failure point lies inside the data: with fewer than `n` bytes left a failing reader reports `.io`, never
    `.eof`. -/
theorem Rd.readExact_takes (fuel : Nat) (r : Rd) (h : Rd.Inv r) (n : Nat) (hfuel : n ≤ fuel) :
    (n ≤ r.data.length → Rd.Takes r n (r.readExact fuel n)) ∧
    (r.data.length < n → r.readExact fuel n = .error (if r.failAt = none then .eof else .io)) := by
  induction fuel generalizing r n with
  | zero =>
    obtain rfl : n = 0 := Nat.le_zero.1 hfuel
    exact ⟨fun _ => .zero h, fun hl => absurd hl (Nat.not_lt_zero _)⟩
  | succ fuel ih =>
    cases n with
    | zero => exact ⟨fun _ => .zero h, fun hl => absurd hl (Nat.not_lt_zero _)⟩
    | succ n =>
      unfold Rd.readExact
      rcases r.fillBuf_spec h with ⟨hf, he⟩ | ⟨hf, hd, he⟩ | ⟨a, r', he, hF⟩
      · rw [he, hf]; exact ⟨fun _ => .fail hf (Nat.succ_pos _), fun _ => rfl⟩
      · rw [he, hd, hf]; exact ⟨fun hl => absurd hl (Nat.not_succ_le_zero n), fun _ => rfl⟩
      · rw [he]
        simp only [hF.isEmpty_take, hF.length_take, Bool.false_eq_true, if_false]
        obtain ⟨hc1, hca, hcn⟩ := min_succ_bounds hF.pos n
        -- as in `readUpTo_takes`: the bytes of this round an atom for `omega`
        generalize min a (n + 1) = c at hc1 hca hcn ⊢
        have hle := hF.le
        have hA := hF.consume hca
        obtain ⟨ihread, ihshort⟩ := ih _ hA.inv (n + 1 - c) (by omega)
        rw [hA.data, List.length_drop] at ihread ihshort
        refine ⟨fun hl => ?_, fun hl => ?_⟩
        · have := (ihread (by omega)).step hA
          rw [Nat.add_sub_cancel' hcn] at this
          rwa [List.take_take, Nat.min_eq_left hca]
        · rw [ihshort (by omega), hA.failAt]
          cases r.failAt <;> rfl

theorem Rd.readToEnd_takes (fuel : Nat) (r : Rd) (h : Rd.Inv r) (hfuel : r.data.length < fuel) :
    Rd.Takes r (r.data.length + 1) (r.readToEnd fuel) := by
  induction fuel generalizing r with
  | zero => omega
  | succ fuel ih =>
    unfold Rd.readToEnd
    refine .of_fillBuf h (Nat.succ_pos _) fun a r' hF => ?_
    simp only [hF.length_take]
    have hA := hF.consume (Nat.le_refl a)
    have hle := hF.le
    have h1 := hF.pos
    have := (ih _ hA.inv (by rw [hA.data, List.length_drop]; omega)).step hA
    rwa [hA.data, List.length_drop, show a + (r.data.length - a + 1) = r.data.length + 1 by omega] at this

/-- `read_line`: up to and including the first line feed (which has to be seen, or else the end of the data). -/
theorem Rd.readLine_takes (fuel : Nat) (r : Rd) (h : Rd.Inv r) (hfuel : r.data.length < fuel) :
    Rd.Takes r ((r.data.takeWhile (· ≠ 10)).length + 1) (r.readLine fuel) := by
  induction fuel generalizing r with
  | zero => omega
  | succ fuel ih =>
    unfold Rd.readLine
    refine .of_fillBuf h (Nat.succ_pos _) fun a r' hF => ?_
    -- the stretch before the line feed, as far as it lies in the buffer
    simp only [hF.length_take, ← List.take_takeWhile, List.length_take]
    have hle := hF.le
    have h1 := hF.pos
    by_cases hlt : (r.data.takeWhile (· ≠ 10)).length < a
    · rw [Nat.min_eq_right (Nat.le_of_lt hlt), if_pos hlt, List.take_of_length_le (Nat.le_of_lt hlt)]
      have hA := hF.consume (c := (r.data.takeWhile (· ≠ 10)).length + 1) hlt
      refine .inr ⟨_, ?_, hA⟩
      rw [take_line, if_pos (Nat.lt_of_lt_of_le hlt hle)]
    · have hal := Nat.le_of_not_lt hlt
      rw [Nat.min_eq_left hal, if_neg (Nat.lt_irrefl a)]
      have hA := hF.consume (Nat.le_refl a)
      have := (ih _ hA.inv (by rw [hA.data, List.length_drop]; omega)).step hA
      rwa [hA.data, takeWhile_drop_of_le _ _ _ hal, List.length_drop, ← Nat.add_assoc, Nat.add_sub_cancel' hal] at this

/-- `read_to_end` behind another operation: the rest of the data — or, on a failing reader, the failure, since the end of
    the stream has to be seen -/
theorem Rd.After.readToEnd {r r' : Rd} {d : Nat} (h : Rd.After r d r') :
    (r.failAt = none ∧ ∃ r'', r'.readToEnd (r'.data.length + 1) = .ok (r.data.drop d, r'')) ∨
    ((∃ k, r.failAt = some k) ∧ r'.readToEnd (r'.data.length + 1) = .error .io) := by
  have h2 := Rd.readToEnd_takes (r'.data.length + 1) r' h.inv (Nat.lt_succ_self _)
  cases hf : r.failAt with
  | none =>
    obtain ⟨r'', he, -⟩ := h2.ok (h.inv.ok (by rw [h.failAt, hf]; rfl))
    rw [List.take_of_length_le (Nat.le_succ _)] at he
    exact .inl ⟨rfl, r'', by rw [he, h.data]⟩
  | some k => exact .inr ⟨⟨k, rfl⟩, h2.io_of_end h.inv (by rw [h.failAt, hf]; rfl)⟩

/-- `read_to_end` on an `Ok` reader returns all the remaining data whatever the chunk schedule (each round consumes at
    least one byte, so `data.length + 1` rounds suffice). -/
theorem Rd.readToEnd_schedule_free (fuel : Nat) (r : Rd) (h : Rd.Ok r) (hfuel : r.data.length < fuel) :
    ∃ r', r.readToEnd fuel = .ok (r.data, r') ∧ r'.data = [] := by
  obtain ⟨r', he, _, hd⟩ := (Rd.readToEnd_takes fuel r h.inv hfuel).ok h
  rw [List.take_of_length_le (Nat.le_succ _)] at he
  exact ⟨r', he, by rw [hd, List.drop_eq_nil_of_le (Nat.le_succ _)]⟩

/-- Where the descriptor fails, counted from its first byte: every byte accepted moves `out` on and `failAt` down. -/
def Wr.failPos (w : Wr) : Option Nat := w.failAt.map (w.out.length + ·)

/-- `x` is the result of handing `b` to `w` by `write_all`s: the failure is reported, and then its point lies inside `b`;
    or `b` has been appended and the failure point has not moved (so it lies behind `b`). -/
def Wr.Appends (w : Wr) (b : List Nat) (x : Except IoErr Wr) : Prop :=
  (∃ k, w.failAt = some k ∧ k < b.length ∧ x = .error .io) ∨
  ∃ w', x = .ok w' ∧ w'.out = w.out ++ b ∧ w'.failPos = w.failPos

theorem Wr.Appends.nil (w : Wr) : Wr.Appends w [] (.ok w) := .inr ⟨w, rfl, (List.append_nil _).symm, rfl⟩

theorem Wr.Appends.ok {w : Wr} {b x} (h : Wr.Appends w b x) (hf : w.failAt = none) :
    ∃ w', x = .ok w' ∧ w'.out = w.out ++ b ∧ w'.failAt = none := by
  rcases h with ⟨k, hk, _⟩ | ⟨w', he, ho, hp⟩
  · rw [hf] at hk; cases hk
  · refine ⟨w', he, ho, ?_⟩
    simp only [Wr.failPos, hf, Option.map_none, Option.map_eq_none_iff] at hp
    exact hp

theorem Wr.Appends.io {w : Wr} {b x} (h : Wr.Appends w b x) {k : Nat} (hf : w.failAt = some k) (hk : k < b.length) :
    x = .error .io := by
  rcases h with ⟨_, _, _, he⟩ | ⟨w', _, ho, hp⟩
  · exact he
  · simp only [Wr.failPos, hf, ho, Option.map_some, List.length_append] at hp
    obtain ⟨j, _, hj⟩ := Option.map_eq_some_iff.1 hp
    omega

theorem Wr.Appends.seq {w w' : Wr} {b c x} (ho : w'.out = w.out ++ b) (hp : w'.failPos = w.failPos)
    (h : Wr.Appends w' c x) : Wr.Appends w (b ++ c) x := by
  rcases h with ⟨k', hk', hlt, he⟩ | ⟨w'', he, ho', hp'⟩
  · simp only [Wr.failPos, hk', ho, Option.map_some, List.length_append] at hp
    obtain ⟨k, hk, hkk⟩ := Option.map_eq_some_iff.1 hp.symm
    exact .inl ⟨k, hk, by rw [List.length_append]; omega, he⟩
  · exact .inr ⟨w'', he, by rw [ho', ho, List.append_assoc], hp'.trans hp⟩

theorem Wr.write_spec (w : Wr) (b : List Nat) (hb : b ≠ []) :
    (w.failAt = some 0 ∧ w.write b = .error .io) ∨
    ∃ c w', w.write b = .ok (c, w') ∧ c ≠ 0 ∧ c ≤ b.length ∧ w'.out = w.out ++ b.take c ∧ w'.failPos = w.failPos := by
  have hl : 0 < b.length := List.length_pos_iff.2 hb
  have h0 : 0 < min (max 1 (w.sched.headD b.length)) b.length := Nat.lt_min.2 ⟨Nat.le_max_left 1 _, hl⟩
  unfold Wr.write
  rcases hf : w.failAt with _ | _ | k
  · exact .inr ⟨_, _, rfl, Nat.pos_iff_ne_zero.1 h0, Nat.min_le_right _ _, rfl, by rw [Wr.failPos, Wr.failPos, hf]; rfl⟩
  · rw [List.isEmpty_eq_false_iff.2 hb]; exact .inl ⟨rfl, rfl⟩
  · -- `c` bytes are accepted, no more than the failure point allows, which therefore stays where it is
    obtain ⟨c, hc⟩ : ∃ c, c = min (min (max 1 (w.sched.headD b.length)) b.length) (k + 1) := ⟨_, rfl⟩
    have hck : c ≤ k + 1 := hc ▸ Nat.min_le_right _ _
    have hcl : c ≤ b.length := hc ▸ Nat.le_trans (Nat.min_le_left _ _) (Nat.min_le_right _ _)
    have hc0 : 0 < c := hc ▸ Nat.lt_min.2 ⟨h0, Nat.succ_pos k⟩
    refine .inr ⟨c, _, by rw [hc]; rfl, Nat.pos_iff_ne_zero.1 hc0, hcl, by rw [hc], ?_⟩
    simp only [Wr.failPos, hf, ← hc, Option.map_some, List.length_append, List.length_take_of_le hcl, Option.some.injEq]
    clear hc -- or else `omega` splits on its `min`s
    omega

theorem Wr.writeAll_appends (fuel : Nat) (b : List Nat) (w : Wr) (hfuel : b.length ≤ fuel) :
    Wr.Appends w b (Wr.writeAll fuel b w) := by
  induction fuel generalizing b w with
  | zero =>
    cases b with
    | nil => exact .nil w
    | cons x xs => simp at hfuel
  | succ fuel ih =>
    cases b with
    | nil => exact .nil w
    | cons x xs =>
      rw [Wr.writeAll]
      · rcases w.write_spec (x :: xs) (List.cons_ne_nil _ _) with ⟨hf, he⟩ | ⟨c, w', he, hc, hle, ho, hp⟩
        · rw [he]; exact .inl ⟨0, hf, Nat.succ_pos _, rfl⟩
        · rw [he]
          dsimp only
          rw [if_neg hc]
          have := (ih ((x :: xs).drop c) w' (by rw [List.length_drop]; omega)).seq ho hp
          rwa [List.take_append_drop] at this
      · intro h; cases h  -- side condition of `writeAll`'s last equation: the buffer is not `[]`

theorem Wr.writeAllOf_appends (w : Wr) (b : List Nat) : Wr.Appends w b (w.writeAllOf b) :=
  Wr.writeAll_appends b.length b w (Nat.le_refl _)

theorem Wr.writePieces_appends (ps : List (List Nat)) (w : Wr) : Wr.Appends w ps.flatten (w.writePieces ps) := by
  induction ps generalizing w with
  | nil => exact .nil w
  | cons p ps ih =>
    rw [Wr.writePieces, List.flatten_cons]
    rcases w.writeAllOf_appends p with ⟨k, hk, hlt, he⟩ | ⟨w', he, ho, hp⟩
    · rw [he]; exact .inl ⟨k, hk, by rw [List.length_append]; omega, rfl⟩
    · rw [he]; exact (ih w').seq ho hp

end Sfs
