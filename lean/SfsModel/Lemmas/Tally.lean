/-
The column loop `tally` in closed form over the selected pairs (`popSum`), hence `readSite` = `siteSpec` from any
buffers of the right lengths, and the site as a function of the multiset of selected pairs. The one light Mathlib import: DESIGN.md §2.5.
-/
import SfsModel.Lemmas.Selected
import SfsModel.Lemmas.ListAux
import Mathlib.Algebra.GroupWithZero.Nat
namespace Sfs
open Sfs.Spec

def popSum (f : GtRes → Nat) (sel : List (Nat × GtRes)) (j : Nat) : Nat :=
  ((sel.filter (fun p => p.1 = j)).map (fun p => f p.2)).sum

theorem popSum_nil (f : GtRes → Nat) (j : Nat) : popSum f [] j = 0 := rfl

theorem popSum_cons (f : GtRes → Nat) (p : Nat × GtRes) (sel : List (Nat × GtRes)) (j : Nat) :
    popSum f (p :: sel) j = (if p.1 = j then f p.2 else 0) + popSum f sel j := by
  unfold popSum
  by_cases e : p.1 = j <;> simp [e]

theorem altCounts_eq (npop : Nat) (sel : List (Nat × GtRes)) :
    altCounts npop sel = (List.range npop).map (popSum altOf sel) := rfl

theorem calledTotals_eq (npop : Nat) (sel : List (Nat × GtRes)) :
    calledTotals npop sel = (List.range npop).map (popSum calledOf sel) := rfl

theorem altCounts_length (npop : Nat) (sel : List (Nat × GtRes)) : (altCounts npop sel).length = npop := by
  simp [altCounts]

theorem calledTotals_length (npop : Nat) (sel : List (Nat × GtRes)) : (calledTotals npop sel).length = npop := by
  simp [calledTotals]

theorem popSum_mono (f g : GtRes → Nat) (j : Nat) : ∀ sel : List (Nat × GtRes),
    (∀ p ∈ sel, f p.2 ≤ g p.2) → popSum f sel j ≤ popSum g sel j
  | [], _ => Nat.le_refl _
  | p :: sel, h => by
    rw [popSum_cons, popSum_cons]
    have h1 := popSum_mono f g j sel (fun q hq => h q (List.mem_cons_of_mem _ hq))
    have h2 := h p List.mem_cons_self
    split <;> omega

theorem popSum_congr (f g : GtRes → Nat) (j : Nat) (sel : List (Nat × GtRes))
    (h : ∀ p ∈ sel, f p.2 = g p.2) : popSum f sel j = popSum g sel j := by
  unfold popSum
  rw [List.map_congr_left fun p hp => h p (List.mem_filter.mp hp).1]

theorem popSum_const (B j : Nat) (sel : List (Nat × GtRes)) :
    popSum (fun _ => B) sel j = B * (sel.filter (fun p => p.1 = j)).length := by
  unfold popSum
  rw [List.map_const', List.sum_replicate_nat, Nat.mul_comm]

theorem popSum_perm (f : GtRes → Nat) {sel sel' : List (Nat × GtRes)} (h : sel.Perm sel') (j : Nat) :
    popSum f sel j = popSum f sel' j :=
  ((h.filter _).map _).sum_nat

/- Every buffer is kept in the form `(List.range n).map f`: the form carries its length, and `bump`, `tally` become
   equations between such forms. -/

theorem bump_range (n : Nat) (f : Nat → Nat) (i k : Nat) :
    bump ((List.range n).map f) i k = (List.range n).map fun j => f j + if i = j then k else 0 := by
  rw [bump, set_range_map]
  apply List.map_congr_left
  intro j hj
  split
  · next e => rw [getD_range_map, e, if_pos (List.mem_range.mp hj)]
  · rfl

/-- The `reset` of `read_site` leaves buffers in range form. -/
theorem map_zero_range {β} (l : List β) : l.map (fun _ => 0) = (List.range l.length).map fun _ => 0 := by
  rw [List.map_const', List.map_const', List.length_range]

/-- `tally_eq_none_iff` says when it aborts instead. -/
theorem tally_range (map : List (String × Nat)) (n m : Nat) : ∀ (cols : List String) (gts : List GtRes)
    (f g : Nat → Nat) (sk : List (Nat × Skip)), hasPloidyError (selected map cols gts) = false →
    ∃ sk', sk'.isEmpty = complete (selected map cols gts) ∧
      tally map cols gts ⟨(List.range n).map f, (List.range m).map g, sk⟩ =
        some ⟨(List.range n).map fun j => f j + popSum altOf (selected map cols gts) j,
              (List.range m).map fun j => g j + popSum calledOf (selected map cols gts) j, sk ++ sk'⟩
  | [], gts, f, g, sk, _ | _ :: _, [], f, g, sk, _ => ⟨[], rfl, by simp [selected, tally, popSum_nil]⟩
  | c :: cs, gt :: gs, f, g, sk, h => by
    cases hl : lookupPop map c with
    | none =>
      rw [selected_cons_none hl] at h ⊢
      rw [tally, hl]
      exact tally_range map n m cs gs f g sk h
    | some pid =>
      rw [selected_cons_some hl] at h ⊢
      rw [tally, hl]
      cases gt with
      | ploidyError => cases h
      | genotype k =>
        obtain ⟨sk', hcomp, e⟩ := tally_range map n m cs gs (fun j => f j + if pid = j then k else 0)
          (fun j => g j + if pid = j then 2 else 0) sk h
        -- headed by a genotype, `complete` is that of the tail: `rfl`
        refine ⟨sk', hcomp, ?_⟩
        simp only [bump_range, e, popSum_cons, altOf, calledOf, Nat.add_assoc]
      | skipped s =>
        obtain ⟨sk', _, e⟩ := tally_range map n m cs gs f g (sk ++ [((lookupSampleId map c).getD 0, s)]) h
        -- headed by a skip, `complete` is `false`: `rfl`
        refine ⟨((lookupSampleId map c).getD 0, s) :: sk', rfl, ?_⟩
        simp only [e, popSum_cons, altOf, calledOf, ite_self, Nat.zero_add, List.append_assoc,
          List.singleton_append]

theorem tally_reset (map : List (String × Nat)) (cols : List String) (gts : List GtRes) (st : SiteSt)
    (h : hasPloidyError (selected map cols gts) = false) :
    ∃ sk, sk.isEmpty = complete (selected map cols gts) ∧
      tally map cols gts ⟨st.counts.map (fun _ => 0), st.totals.map (fun _ => 0), []⟩ =
        some ⟨(List.range st.counts.length).map (popSum altOf (selected map cols gts)),
              (List.range st.totals.length).map (popSum calledOf (selected map cols gts)), sk⟩ := by
  obtain ⟨sk, hsk, e⟩ :=
    tally_range map st.counts.length st.totals.length cols gts (fun _ => 0) (fun _ => 0) [] h
  refine ⟨sk, hsk, ?_⟩
  rw [map_zero_range st.counts, map_zero_range st.totals, e]
  simp only [Nat.zero_add, List.nil_append]

/- The two tests of `read_site` against a projection target (`exact`, `projectable`). -/

theorem all_zipWith_decide_eq : ∀ (a b : List Nat), a.length = b.length →
    (List.zipWith (fun t m => decide (t = m)) a b).all id = decide (a = b)
  | [], [], _ => by simp
  | x :: a, y :: b, h => by
    have ih := all_zipWith_decide_eq a b (by simpa using h)
    simp only [List.zipWith_cons_cons, List.all_cons, ih, id]
    by_cases e : x = y <;> simp [e]
  | [], _ :: _, h | _ :: _, [], h => by cases h

theorem all_zipWith_decide_le_iff : ∀ (a b : List Nat), a.length = b.length →
    ((List.zipWith (fun t m => decide (m ≤ t)) a b).all id = true ↔
      ∀ j, j < b.length → b.getD j 0 ≤ a.getD j 0)
  | [], [], _ => by simp
  | x :: a, y :: b, h => by
    rw [List.zipWith_cons_cons, List.all_cons, Bool.and_eq_true, all_zipWith_decide_le_iff a b (Nat.succ.inj h),
      List.length_cons, Nat.forall_lt_succ_left]
    simp only [id, decide_eq_true_eq, List.getD_cons_zero, List.getD_cons_succ]
  | [], _ :: _, h | _ :: _, [], h => by cases h

theorem readSite_lengths (cfg : SiteCfg) (st : SiteSt) (gts : List GtRes) :
    (readSite cfg st gts).2.counts.length = st.counts.length ∧
    (readSite cfg st gts).2.totals.length = st.totals.length := by
  simp only [readSite]
  cases hp : hasPloidyError (selected cfg.map cfg.cols gts) with
  | true => simp [(tally_eq_none_iff ..).mpr hp]
  | false =>
    obtain ⟨sk, _, ht⟩ := tally_reset cfg.map cfg.cols gts st hp
    simp [ht]

/-- `hpt` is `CfgOk.projectTo_length`. -/
theorem readSite_eq_spec (cfg : SiteCfg)
    (hpt : ∀ pt, cfg.projectTo = some pt → pt.length = numPops cfg.map) (st : SiteSt)
    (h1 : st.counts.length = numPops cfg.map) (h2 : st.totals.length = numPops cfg.map) (gts : List GtRes) :
    (readSite cfg st gts).1 = siteSpec cfg gts := by
  simp only [readSite, siteSpec]
  cases hp : hasPloidyError (selected cfg.map cfg.cols gts) with
  | true => rw [(tally_eq_none_iff ..).mpr hp]; rfl
  | false =>
    obtain ⟨sk, hsk, ht⟩ := tally_reset cfg.map cfg.cols gts st hp
    simp only [ht, h1, h2, Bool.false_eq_true, if_false]
    cases hq : cfg.projectTo with
    | none => rw [hsk, apply_ite some]; rfl
    | some pt =>
      -- `exact` becomes `totals = pt` (`all_zipWith_decide_eq`); `projectable` is the spec's test once `≥` is `≤`
      simp only [ge_iff_le]
      rw [← calledTotals_eq, all_zipWith_decide_eq _ _ ((calledTotals_length _ _).trans (hpt pt hq).symm)]
      simp only [decide_eq_true_eq]
      rw [apply_ite some, apply_ite some]
      rfl

theorem readSite_eq_spec_of_cfgOk (cfg : SiteCfg) (hc : CfgOk cfg) (st : SiteSt)
    (h1 : st.counts.length = numPops cfg.map) (h2 : st.totals.length = numPops cfg.map) (gts : List GtRes) :
    (readSite cfg st gts).1 = siteSpec cfg gts :=
  readSite_eq_spec cfg hc.projectTo_length st h1 h2 gts

/-- Nothing is asked of the projection target, unlike `readSite_eq_spec`. -/
theorem readSite_fst_congr (cfg cfg' : SiteCfg) (st st' : SiteSt) (gts gts' : List GtRes)
    (hpt : cfg.projectTo = cfg'.projectTo)
    (hc : st.counts.length = st'.counts.length) (ht : st.totals.length = st'.totals.length)
    (hsel : (selected cfg.map cfg.cols gts).Perm (selected cfg'.map cfg'.cols gts')) :
    (readSite cfg st gts).1 = (readSite cfg' st' gts').1 := by
  have e1 : hasPloidyError (selected cfg.map cfg.cols gts) = hasPloidyError (selected cfg'.map cfg'.cols gts') :=
    hsel.any_eq
  simp only [readSite, ← hpt]
  cases hp : hasPloidyError (selected cfg.map cfg.cols gts) with
  | true => rw [(tally_eq_none_iff ..).mpr hp, (tally_eq_none_iff ..).mpr (e1 ▸ hp)]
  | false =>
    obtain ⟨sk, hsk, e⟩ := tally_reset cfg.map cfg.cols gts st hp
    obtain ⟨sk', hsk', e'⟩ := tally_reset cfg'.map cfg'.cols gts' st' (e1 ▸ hp)
    have hk : sk.isEmpty = sk'.isEmpty := by rw [hsk, hsk']; exact hsel.all_eq
    simp only [e, e', hc, ht, hk, fun f => funext (popSum_perm f hsel)]

end Sfs
