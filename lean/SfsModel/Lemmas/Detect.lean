/-
Container detection case by case, the read-ahead prefix, and `createFromRd` (prefix, detection, rest) against
`createFromBytes` (C12, C18).
-/
import SfsModel.Lemmas.IoModel
namespace Sfs

theorem detectContainer_gz (inflate3 : List Nat → Option (List Nat)) (pfx b : List Nat)
    (hg : gzipMagic.isPrefixOf pfx = true) (hb : inflate3 pfx = some b) :
    detectContainer inflate3 pfx = .ok (if b = bcfMagic then .bcfGz else .vcfGz) := by
  unfold detectContainer
  rw [if_pos hg, hb]
  dsimp only
  split <;> rfl

theorem detectContainer_bcfRaw (inflate3 : List Nat → Option (List Nat)) (pfx : List Nat)
    (hg : gzipMagic.isPrefixOf pfx = false) (hb : bcfMagic.isPrefixOf pfx = true) :
    detectContainer inflate3 pfx = .ok .bcfRaw := by
  unfold detectContainer
  rw [hg, hb]
  rfl

theorem detectContainer_vcf (inflate3 : List Nat → Option (List Nat)) (pfx : List Nat)
    (hg : gzipMagic.isPrefixOf pfx = false) (hb : bcfMagic.isPrefixOf pfx = false) :
    detectContainer inflate3 pfx = .ok .vcf := by
  unfold detectContainer
  rw [hg, hb]
  rfl

theorem readPrefix_takes (r : Rd) (h : Rd.Inv r) : Rd.Takes r 65536 (readPrefix r) :=
  Rd.readUpTo_takes 65536 r h 65536 (Nat.le_refl _)

/-- `sfs create` over a stream: what it computes on the whole byte string whatever the chunk schedule — the prefix chained
    back in front of the rest is the stream — and nothing at all if the reader fails anywhere up to the end. -/
theorem createFromRd_eq (inflate3 : List Nat → Option (List Nat)) (decode : Container → List Nat → Option CallSet)
    (a : CreateArgs) (r : Rd) (h : Rd.Inv r) :
    createFromRd inflate3 decode a r = if r.failAt = none then createFromBytes inflate3 decode a r.data else none := by
  unfold createFromRd createFromBytes
  rcases readPrefix_takes r h with ⟨k, hk, _, he⟩ | ⟨r', he, hA⟩
  · rw [he, hk]; rfl
  · rw [he]
    dsimp only
    cases detectContainer inflate3 (List.take 65536 r.data) with
    | error e => dsimp only; cases r.failAt <;> rfl
    | ok c =>
      rcases hA.readToEnd with ⟨hf, r'', he2⟩ | ⟨⟨k, hf⟩, he2⟩
      · rw [he2, hf]; dsimp only; rw [List.take_append_drop]; rfl
      · rw [he2, hf]; rfl

end Sfs
