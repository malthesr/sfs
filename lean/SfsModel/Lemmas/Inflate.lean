/-
DEFLATE, gzip and BGZF: a frame around any DEFLATE data that inflate to the payload is read back, and the block loop
concatenates the payloads; the stored-block encoder is one instance. CRC-32 is a 32-bit register, so values below 2³²
(`AllLt (2 ^ 32)`, not: bytes) are all these facts ask of a payload.
-/
import SfsModel.Spec.Container
import SfsModel.Lemmas.LeBytes
namespace Sfs

def AllLt (N : Nat) (l : List Nat) : Prop := ∀ b ∈ l, b < N

theorem isBytes_iff_allLt (l : List Nat) : IsBytes l ↔ AllLt 256 l := Iff.rfl

theorem AllLt.mono {N M : Nat} {l : List Nat} (h : AllLt N l) (hNM : N ≤ M) : AllLt M l :=
  fun b hb => Nat.lt_of_lt_of_le (h b hb) hNM

theorem AllLt.append {N : Nat} {a b : List Nat} (ha : AllLt N a) (hb : AllLt N b) : AllLt N (a ++ b) :=
  List.forall_mem_append.2 ⟨ha, hb⟩

theorem AllLt.flatMap {α : Type} {N : Nat} {xs : List α} {f : α → List Nat} (h : ∀ x ∈ xs, AllLt N (f x)) :
    AllLt N (xs.flatMap f) := by
  intro b hb
  obtain ⟨x, hx, hbx⟩ := List.mem_flatMap.1 hb
  exact h x hx b hbx

/-- bytes in particular (the hypothesis is `IsBytes l` unfolded, so that `decide` proves it of a literal list) -/
theorem allLt_of_bytes {l : List Nat} (h : ∀ b ∈ l, b < 256) : AllLt (2 ^ 32) l := AllLt.mono h (by omega)

/-- the three header bits of a block whose first byte is `0` or `1`: BFINAL = that byte, BTYPE = 0 -/
theorem readBits_hdr (b : Nat) (hb : b < 2) (xs : List Nat) :
    BitRd.readBits 1 ⟨b :: xs, 0⟩ = some (b, ⟨b :: xs, 1⟩) ∧ BitRd.readBits 2 ⟨b :: xs, 1⟩ = some (0, ⟨b :: xs, 3⟩) := by
  obtain rfl | rfl : b = 0 ∨ b = 1 := by omega
  all_goals simp [BitRd.readBits, BitRd.readBit]

theorem inflateStored_block (b : Nat) (chunk rest : List Nat) (out : Array Nat) (hl : chunk.length ≤ 65535) :
    inflateStored ⟨b :: chunk.length % 256 :: chunk.length / 256 :: (65535 - chunk.length) % 256 ::
        (65535 - chunk.length) / 256 :: (chunk ++ rest), 3⟩ out
      = some (⟨rest, 0⟩, out ++ chunk.toArray) := by
  have h2 : chunk.length % 256 + 256 * (chunk.length / 256) = chunk.length := by omega
  simp [inflateStored, BitRd.align, h2]
  omega

theorem inflateBlocks_storedBlock (fin : Bool) (f : Nat) (chunk rest : List Nat) (out : Array Nat)
    (hl : chunk.length ≤ 65535) :
    inflateBlocks (f + 1) ⟨deflateStoredBlock fin chunk ++ rest, 0⟩ out =
      if fin then some (⟨rest, 0⟩, out ++ chunk.toArray)
      else inflateBlocks f ⟨rest, 0⟩ (out ++ chunk.toArray) := by
  have hb : (if fin then 1 else 0) < 2 := by split <;> omega
  simp only [deflateStoredBlock, inflateBlocks, List.cons_append, List.nil_append, readBits_hdr _ hb, if_true,
    inflateStored_block _ _ _ _ hl]
  cases fin <;> simp

theorem deflateStoredBlock_length (fin : Bool) (chunk : List Nat) :
    (deflateStoredBlock fin chunk).length = chunk.length + 5 := rfl

theorem deflateStored_length_ge (k : Nat) : ∀ data : List Nat, data.length ≤ 65535 * (k + 1) →
    data.length ≤ (deflateStored k data).length := by
  induction k with
  | zero =>
    intro data h
    rw [deflateStored, List.take_of_length_le (by omega), deflateStoredBlock_length]
    omega
  | succ k ih =>
    intro data h
    unfold deflateStored
    split
    · rw [deflateStoredBlock_length]; omega
    · have := ih (data.drop 65535) (by rw [List.length_drop]; omega)
      rw [List.length_drop] at this
      rw [List.length_append, deflateStoredBlock_length, List.length_take]
      omega

theorem inflateBlocks_deflateStored (k : Nat) : ∀ (fuel : Nat) (data rest : List Nat) (out : Array Nat),
    data.length ≤ 65535 * (k + 1) → data.length ≤ 65535 * fuel → 1 ≤ fuel →
    inflateBlocks fuel ⟨deflateStored k data ++ rest, 0⟩ out = some (⟨rest, 0⟩, out ++ data.toArray) := by
  induction k with
  | zero =>
    intro fuel data rest out h _ h1
    obtain ⟨f, rfl⟩ : ∃ f, fuel = f + 1 := ⟨fuel - 1, by omega⟩
    rw [deflateStored, List.take_of_length_le (by omega), inflateBlocks_storedBlock _ _ _ _ _ (by omega)]; rfl
  | succ k ih =>
    intro fuel data rest out h h2 h1
    obtain ⟨f, rfl⟩ : ∃ f, fuel = f + 1 := ⟨fuel - 1, by omega⟩
    unfold deflateStored
    split
    · rename_i hle
      rw [inflateBlocks_storedBlock _ _ _ _ _ hle]; rfl
    · rw [List.append_assoc, inflateBlocks_storedBlock _ _ _ _ _ (by rw [List.length_take]; omega), if_neg Bool.false_ne_true,
        ih f _ _ _ (by rw [List.length_drop]; omega) (by rw [List.length_drop]; omega) (by omega)]
      simp

theorem inflate_deflateStored (data rest : List Nat) (k : Nat) (hk : data.length ≤ 65535 * (k + 1)) :
    inflate (deflateStored k data ++ rest) = some (data, rest) := by
  have hl := deflateStored_length_ge k data hk
  unfold inflate
  rw [inflateBlocks_deflateStored k _ data rest #[] hk (by rw [List.length_append]; omega) (by omega)]
  simp [BitRd.align]

theorem crcStep_lt (c : Nat) (h : c < 2 ^ 32) : crcStep c < 2 ^ 32 := by
  unfold crcStep
  split
  · exact Nat.xor_lt_two_pow (by omega) (by omega)
  · omega

theorem crcByte_lt (c b : Nat) (h : c < 2 ^ 32) (hb : b < 2 ^ 32) : crcByte c b < 2 ^ 32 := by
  unfold crcByte
  have h0 : c ^^^ b < 2 ^ 32 := Nat.xor_lt_two_pow h hb
  exact crcStep_lt _ (crcStep_lt _ (crcStep_lt _ (crcStep_lt _ (crcStep_lt _ (crcStep_lt _ (crcStep_lt _
    (crcStep_lt _ h0)))))))

theorem foldl_crcByte_lt (data : List Nat) (hb : AllLt (2 ^ 32) data) : ∀ c, c < 2 ^ 32 → data.foldl crcByte c < 2 ^ 32 := by
  induction data with
  | nil => exact fun c h => h
  | cons b t ih =>
    intro c h
    rw [List.foldl_cons]
    exact ih (fun x hx => hb x (List.mem_cons_of_mem _ hx)) _ (crcByte_lt c b h (hb b List.mem_cons_self))

theorem crc32_lt (data : List Nat) (hb : AllLt (2 ^ 32) data) : crc32 data < 2 ^ 32 := by
  unfold crc32
  exact Nat.xor_lt_two_pow (foldl_crcByte_lt data hb _ (by omega)) (by omega)

theorem bgzfFrame_eq (cdata payload : List Nat) (rest : List Nat) :
    bgzfFrame cdata payload ++ rest =
      0x1f :: 0x8b :: 8 :: 4 :: 0 :: 0 :: 0 :: 0 :: 0 :: 0xff :: 6 :: 0 :: 66 :: 67 :: 2 :: 0 ::
        ((cdata.length + 25) % 256) :: ((cdata.length + 25) / 256 % 256) ::
        (cdata ++ (toLe32 (crc32 payload) ++ toLe32 payload.length ++ rest)) := by
  simp [bgzfFrame, toLe16]

theorem bgzfFrame_length (cdata payload : List Nat) :
    (bgzfFrame cdata payload).length = cdata.length + 26 := by
  simp [bgzfFrame, toLe16, toLe32]

theorem bgzfBlock_frame (cdata payload t rest : List Nat) (hinf : inflate cdata = some (payload, t))
    (hc : cdata.length + 25 < 65536) (hb : AllLt (2 ^ 32) payload) (hl : payload.length < 2 ^ 32) :
    bgzfBlock (bgzfFrame cdata payload ++ rest) = some (payload, rest) := by
  rw [bgzfFrame_eq]
  have hcrc := le32_toLe32 _ (crc32_lt payload hb)
  have hlen := le32_toLe32 _ hl
  have h16 := le16_toLe16 _ hc
  -- the 18-byte header is matched by evaluation; BSIZE + 1 = `cdata.length + 26`, so `cdata` is what lies before the trailer
  simp [bgzfBlock, h16, toLe32, hinf, hcrc, hlen]

/-- the gzip reader of `Format::detect` on a member with an extra field of six bytes: it skips the field (`bgzfBlock` reads
    `BSIZE` in it) and finds the end of the DEFLATE data by inflating -/
theorem gunzipMember_bgzf {m0 m1 m2 m3 m4 m5 e0 e1 e2 e3 e4 e5 c0 c1 c2 c3 s0 s1 s2 s3 : Nat}
    {r data after : List Nat}
    (hi : inflate r = some (data, c0 :: c1 :: c2 :: c3 :: s0 :: s1 :: s2 :: s3 :: after))
    (hcrc : le32 c0 c1 c2 c3 = crc32 data) (hlen : le32 s0 s1 s2 s3 = data.length % 4294967296) :
    gunzipMember (0x1f :: 0x8b :: 8 :: 4 :: m0 :: m1 :: m2 :: m3 :: m4 :: m5 :: 6 :: 0 ::
      e0 :: e1 :: e2 :: e3 :: e4 :: e5 :: r) = some (data, after) := by
  have h6 : ¬ (r.length + 1 + 1 + 1 + 1 + 1 + 1 < 6) := by omega
  -- FLG = 4: FEXTRA only; XLEN = 6, so `r` starts the DEFLATE data
  simp [gunzipMember, le16, h6, hi, hcrc, hlen]

theorem gunzipMember_frame (cdata payload tail : List Nat)
    (hinf : ∀ rest, inflate (cdata ++ rest) = some (payload, rest))
    (hb : AllLt (2 ^ 32) payload) (hl : payload.length < 2 ^ 32) :
    gunzipMember (bgzfFrame cdata payload ++ tail) = some (payload, tail) := by
  rw [bgzfFrame_eq]
  have hi := hinf (toLe32 (crc32 payload) ++ toLe32 payload.length ++ tail)
  exact gunzipMember_bgzf hi (le32_toLe32 _ (crc32_lt payload hb))
    ((le32_toLe32 _ hl).trans (Nat.mod_eq_of_lt hl).symm)

theorem bgzfFrames_length_ge (blocks : List (List Nat × List Nat)) : blocks.length ≤ (bgzfFrames blocks).length :=
  length_le_length_flatMap _ blocks fun b _ h => by have := bgzfFrame_length b.1 b.2; rw [h] at this; cases this

/-- what `bgzfDecode` needs of a frame: the data inflate to the payload, the sizes fit the 16- and 32-bit fields -/
def FrameOk (b : List Nat × List Nat) : Prop :=
  (∃ t, inflate b.1 = some (b.2, t)) ∧ b.1.length + 25 < 65536 ∧ AllLt (2 ^ 32) b.2 ∧ b.2.length < 2 ^ 32

theorem bgzfDecode_frames (blocks : List (List Nat × List Nat)) :
    ∀ fuel, blocks.length + 1 ≤ fuel → (∀ b ∈ blocks, FrameOk b) →
    bgzfDecode fuel (bgzfFrames blocks) = some (blocks.map (·.2)).flatten := by
  induction blocks with
  | nil =>
    intro fuel hf _
    obtain ⟨f, rfl⟩ : ∃ f, fuel = f + 1 := ⟨fuel - 1, by omega⟩
    simp [bgzfFrames, bgzfDecode]
  | cons b bs ih =>
    intro fuel hf h
    obtain ⟨f, rfl⟩ : ∃ f, fuel = f + 1 := ⟨fuel - 1, by omega⟩
    obtain ⟨⟨t, ht⟩, hc, hb, hl⟩ := h b (by simp)
    have e : bgzfFrames (b :: bs) = bgzfFrame b.1 b.2 ++ bgzfFrames bs := by simp [bgzfFrames]
    have hne : (bgzfFrame b.1 b.2 ++ bgzfFrames bs).isEmpty = false := by rw [bgzfFrame_eq]; rfl
    rw [e, bgzfDecode, hne, bgzfBlock_frame b.1 b.2 t _ ht hc hb hl]
    simp only [Bool.false_eq_true, if_false]
    rw [ih f (by simp at hf; omega) (fun x hx => h x (by simp [hx]))]
    simp

theorem bgzfDecodeAll_frames (blocks : List (List Nat × List Nat)) (h : ∀ b ∈ blocks, FrameOk b) :
    bgzfDecodeAll (bgzfFrames blocks) = some (blocks.map (·.2)).flatten :=
  bgzfDecode_frames blocks _ (by have := bgzfFrames_length_ge blocks; omega) h

theorem deflateStored_zero_length (c : List Nat) (h : c.length ≤ 65535) :
    (deflateStored 0 c).length = c.length + 5 := by
  rw [deflateStored, List.take_of_length_le h, deflateStoredBlock_length]

theorem frameOk_stored (c : List Nat) (hb : AllLt (2 ^ 32) c) (hl : c.length ≤ 65280) : FrameOk (deflateStored 0 c, c) :=
  ⟨⟨[], by simpa using inflate_deflateStored c [] 0 (by omega)⟩, by rw [deflateStored_zero_length c (by omega)]; omega,
    hb, Nat.lt_of_le_of_lt hl (by omega)⟩

/-- the chunks, then the empty end-of-file block -/
theorem bgzfEncodeStored_eq_frames (chunks : List (List Nat)) :
    bgzfEncodeStored chunks = bgzfFrames ((chunks ++ [[]]).map (fun c => (deflateStored 0 c, c))) := by
  simp [bgzfEncodeStored, bgzfFrames, List.flatMap_map]

theorem bgzfDecodeAll_encodeStored (chunks : List (List Nat))
    (h : ∀ c ∈ chunks, AllLt (2 ^ 32) c ∧ c.length ≤ 65280) :
    bgzfDecodeAll (bgzfEncodeStored chunks) = some chunks.flatten := by
  rw [bgzfEncodeStored_eq_frames, bgzfDecodeAll_frames]
  · simp [List.map_map, Function.comp_def]
  · intro b hb
    obtain ⟨c, hc, rfl⟩ := List.mem_map.1 hb
    rcases List.mem_append.1 hc with hc | hc
    · exact frameOk_stored c (h c hc).1 (h c hc).2
    · rw [List.mem_singleton.1 hc]
      exact frameOk_stored [] (fun _ hb => absurd hb List.not_mem_nil) (by simp)

theorem bgzfEncodeStored_cons (c : List Nat) (cs : List (List Nat)) :
    bgzfEncodeStored (c :: cs) = bgzfFrame (deflateStored 0 c) c ++ bgzfEncodeStored cs := by
  simp [bgzfEncodeStored]

theorem inflate3_encodeStored (c : List Nat) (cs : List (List Nat)) (hb : AllLt (2 ^ 32) c)
    (hc : 3 ≤ c.length ∧ c.length ≤ 65280) :
    inflate3 ((bgzfEncodeStored (c :: cs)).take 65536) = some (c.take 3) := by
  have hfl : (bgzfFrame (deflateStored 0 c) c).length ≤ 65536 := by
    rw [bgzfFrame_length, deflateStored_zero_length c (by omega)]; omega
  rw [bgzfEncodeStored_cons, List.take_append, List.take_of_length_le hfl, inflate3, gunzipPrefix,
    gunzipMember_frame _ c _ (fun rest => inflate_deflateStored c rest 0 (by omega)) hb (by omega)]
  simp
  omega

end Sfs
