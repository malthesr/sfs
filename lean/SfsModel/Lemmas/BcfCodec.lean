/-
The BCF decoder model inverts the BCF encoder model: length words, one record (shared block, per-sample GT block), the record
loop, the whole file.
-/
import SfsModel.Lemmas.VcfHeader
import SfsModel.Lemmas.Inflate
namespace Sfs

theorem toLe32_length (n : Nat) : (toLe32 n).length = 4 := rfl

theorem takeN_append {n : Nat} (a b : List Nat) (h : n = a.length) : takeN n (a ++ b) = some (a, b) := by
  subst h; simp [takeN]

/-- the shared block `bcfEncodeRec` writes: CHROM, POS, rlen 1, QUAL missing, n_info 0 / n_allele 2, n_fmt 1 / n_sample, ID `.`,
    alleles `A` `C`, FILTER empty -/
def bcfShared (ci pos ncols : Nat) : List Nat :=
  toLe32 ci ++ toLe32 pos ++ toLe32 1 ++ [0x01, 0x00, 0x80, 0x7f] ++ toLe32 (2 * 65536) ++ toLe32 (16777216 + ncols) ++
    [0x07, 0x17, 65, 0x17, 67, 0x00]

/-- the per-sample block: key 1 (`GT`), two int8 values per sample -/
def bcfIndivBytes (gts : List GtRes) : List Nat := [0x11, 1, 0x21] ++ gts.flatMap renderGtBcf

theorem bcfEncodeRec_eq (contigs : List String) (ncols : Nat) (contig : String) (pos : Nat) (gts : List GtRes) :
    bcfEncodeRec contigs ncols contig pos gts =
      toLe32 (bcfShared (contigs.idxOf contig) (pos - 1) ncols).length ++ toLe32 (bcfIndivBytes gts).length ++
        bcfShared (contigs.idxOf contig) (pos - 1) ncols ++ bcfIndivBytes gts := rfl

theorem bcfShared_length (ci pos ncols : Nat) : (bcfShared ci pos ncols).length = 30 := by
  simp only [bcfShared, toLe32, List.length_append, List.length_cons, List.length_nil]

theorem bcfGtRes_render (g : GtRes) (h : WfGt g) : bcfGtRes (renderGtBcf g) = some g := by
  cases g with
  | genotype k =>
    have hk : k ≤ 2 := h
    match k, hk with
    | 0, _ => decide
    | 1, _ => decide
    | 2, _ => decide
  | skipped s => cases s <;> decide
  | ploidyError => decide

theorem renderGtBcf_pair (g : GtRes) : ∃ a b, renderGtBcf g = [a, b] := by
  cases g with
  | genotype k =>
    match k with
    | 0 => exact ⟨_, _, rfl⟩
    | 1 => exact ⟨_, _, rfl⟩
    | _ + 2 => exact ⟨_, _, rfl⟩
  | skipped s => cases s <;> exact ⟨_, _, rfl⟩
  | ploidyError => exact ⟨_, _, rfl⟩

theorem flatMap_renderGtBcf_length (gts : List GtRes) : (gts.flatMap renderGtBcf).length = 2 * gts.length :=
  length_flatMap_const renderGtBcf 2 gts fun g _ => by obtain ⟨a, b, hab⟩ := renderGtBcf_pair g; rw [hab]; rfl

theorem bcfIndivBytes_length (gts : List GtRes) : (bcfIndivBytes gts).length = 3 + 2 * gts.length := by
  rw [bcfIndivBytes, List.length_append, flatMap_renderGtBcf_length]; rfl

theorem chunksOf_render (gts : List GtRes) :
    chunksOf 2 gts.length (gts.flatMap renderGtBcf) = gts.map renderGtBcf := by
  induction gts with
  | nil => rfl
  | cons g gs ih =>
    obtain ⟨a, b, hab⟩ := renderGtBcf_pair g
    simp only [List.flatMap_cons, List.length_cons, chunksOf, hab, List.map_cons]
    simp only [List.cons_append, List.nil_append, List.take_succ_cons, List.take_zero, List.drop_succ_cons, List.drop_zero, ih]

theorem bcfIndiv_render (gts : List GtRes) (hw : ∀ g ∈ gts, WfGt g) :
    bcfIndiv (some 1) [some "PASS", some "GT"] gts.length 1 (bcfIndivBytes gts) = some gts := by
  have hlen := flatMap_renderGtBcf_length gts
  have ht : takeN (gts.length * 2) (gts.flatMap renderGtBcf) = some (gts.flatMap renderGtBcf, []) := by
    have := takeN_append (n := gts.length * 2) (gts.flatMap renderGtBcf) [] (by omega)
    simpa using this
  have hm : (gts.map renderGtBcf).mapM bcfGtRes = some gts := by
    simpa using mapM_map_some renderGtBcf bcfGtRes id gts (fun g hg => bcfGtRes_render g (hw g hg))
  simp [bcfIndivBytes, bcfIndiv, bcfIndivGo, bcfTypedInt, bcfDescriptor, bcfTypeSize, ht, chunksOf_render, hm]

/-- the sign bit of a 32-bit field is clear below 2³¹ -/
theorem toLe32_top (n : Nat) (h : n < 2 ^ 31) : ¬ n / 16777216 % 256 ≥ 128 := by omega

theorem bcfRecord_encode (h : VcfHeader) (ci pos : Nat) (contig : String) (gts : List GtRes)
    (hci : ci < 2 ^ 31) (hpos : pos < 2 ^ 31 - 1) (hn : gts.length < 2 ^ 24) (hs : h.samples.length = gts.length)
    (hc : h.contigs[ci]? = some (some contig)) (hstr : h.strings = [some "PASS", some "GT"]) (hw : ∀ g ∈ gts, WfGt g) :
    bcfRecord h (bcfShared ci pos gts.length) (bcfIndivBytes gts) = some (Rec.gts contig (pos + 1) gts) := by
  -- the fixed words: rlen 1; n_allele 2 << 16 | n_info 0; then n_fmt 1 << 24 | n_sample
  have w1 : toLe32 1 = [1, 0, 0, 0] := rfl
  have w2 : toLe32 (2 * 65536) = [0, 0, 2, 0] := rfl
  -- a 24-bit field under an 8-bit one
  have hnSample : leNat [(16777216 + gts.length) % 256, (16777216 + gts.length) / 256 % 256,
      (16777216 + gts.length) / 65536 % 256] = gts.length ∧ (16777216 + gts.length) / 16777216 % 256 = 1 := by
    obtain ⟨hquot, hrem⟩ := mul_add_div_mod 1 gts.length 16777216 hn
    rw [leNat_low3, hrem, hquot]
    exact ⟨rfl, rfl⟩
  have hposMax : ¬ pos ≥ 2 ^ 31 - 1 := by omega
  have hsamples := bcfIndiv_render gts hw
  have hgtKey : ([some "PASS", some "GT"] : List (Option String)).idxOf? (some "GT") = some 1 := by decide
  have htail : bcfSharedTailOk (leNat [2, 0]) (leNat [0, 0]) [0x07, 0x17, 65, 0x17, 67, 0x00] = true := by decide
  have hnAllele : ¬ leNat [2, 0] = 0 := by decide
  have hrlen : ¬ 0 ≥ 128 := by decide
  have hqual : ¬ ([0x01, 0x00, 0x80, 0x7f] : List Nat) ≠ [0x01, 0x00, 0x80, 0x7f] := by decide
  -- `bcfRecord`'s tests in its order: sign bits (`toLe32_top`, `hrlen`), n_sample (`hnSample`, `hs`); QUAL, n_allele, POS
  -- (`hposMax`); the shared tail; the contig (`hc`); the GT key (`hstr`, `hgtKey`); the samples
  unfold bcfRecord bcfShared
  rw [w1, w2, takeN_append (n := 24) _ _ rfl]
  simp only [toLe32, List.cons_append, List.nil_append, leNat_toLe32 ci (by omega), leNat_toLe32 pos (by omega), hnSample,
    toLe32_top ci hci, toLe32_top pos (by omega), hposMax, hrlen, hqual, hnAllele, htail, hs, hc, hstr, hgtKey,
    hsamples, Option.join_some, ne_eq, not_true_eq_false, or_self, if_false, Option.map_some, Bool.not_true, Bool.false_eq_true]

theorem bcfRecords_step (h : VcfHeader) (fuel : Nat) (shared indiv rest : List Nat) (r : Rec) (rs : List Rec)
    (hs : shared.length < 2 ^ 32) (hi : indiv.length < 2 ^ 32)
    (hr : bcfRecord h shared indiv = some r) (hrs : bcfRecords h fuel rest = some rs) :
    bcfRecords h (fuel + 1) (toLe32 shared.length ++ toLe32 indiv.length ++ shared ++ indiv ++ rest) =
      some (r :: rs) := by
  have t1 : takeN shared.length (shared ++ (indiv ++ rest)) = some (shared, indiv ++ rest) := takeN_append _ _ rfl
  have t2 : takeN indiv.length (indiv ++ rest) = some (indiv, rest) := takeN_append _ _ rfl
  simp only [toLe32, List.cons_append, List.nil_append, List.append_assoc, bcfRecords, List.isEmpty_cons,
    Bool.false_eq_true, if_false, leNat_toLe32 shared.length hs, leNat_toLe32 indiv.length hi, t1, t2, hr, hrs]

theorem bcfRecords_encode (cols contigs : List String) (recs : List (String × Nat × List GtRes))
    (hn : cols.length < 2 ^ 24) (hc : contigs.length < 2 ^ 31)
    (hw : ∀ r ∈ recs, r.1 ∈ contigs ∧ 1 ≤ r.2.1 ∧ r.2.2.length = cols.length ∧ ∀ g ∈ r.2.2, WfGt g)
    (hp : ∀ r ∈ recs, r.2.1 < 2 ^ 31) (fuel : Nat) (hf : recs.length < fuel) :
    bcfRecords ⟨cols, contigs.map some, [some "PASS", some "GT"]⟩ fuel
      (recs.flatMap (fun r => bcfEncodeRec contigs cols.length r.1 r.2.1 r.2.2)) = some (toRecs recs) := by
  induction recs generalizing fuel with
  | nil =>
    match fuel, hf with  -- no case `0`: `hf` excludes it
    | f + 1, _ => simp [bcfRecords, toRecs]
  | cons r rs ih =>
    match fuel, hf with
    | f + 1, hf =>
      obtain ⟨contig, pos, gts⟩ := r
      obtain ⟨hmem, hpos1, hlen, hgt⟩ := hw (contig, pos, gts) (by simp)
      have hpos2 := hp (contig, pos, gts) (by simp)
      simp only at hmem hpos1 hlen hgt hpos2
      have ih' := ih (fun x hx => hw x (by simp [hx])) (fun x hx => hp x (by simp [hx])) f
        (by simp only [List.length_cons] at hf; omega)
      have hidx : contigs.idxOf contig < contigs.length := List.idxOf_lt_length_of_mem hmem
      have hrec := bcfRecord_encode ⟨cols, contigs.map some, [some "PASS", some "GT"]⟩ (contigs.idxOf contig) (pos - 1) contig gts
        (by omega) (by omega) (by omega) hlen.symm
        (by rw [List.getElem?_map, List.getElem?_eq_getElem hidx, List.getElem_idxOf]; rfl) rfl hgt
      have hposeq : pos - 1 + 1 = pos := by omega
      rw [hlen, hposeq] at hrec
      rw [List.flatMap_cons, bcfEncodeRec_eq, bcfRecords_step _ f _ _ _ _ _ (by rw [bcfShared_length]; omega)
        (by rw [bcfIndivBytes_length]; omega) hrec ih']
      rfl

theorem length_le_flatMap_bcfEncodeRec (contigs : List String) (ncols : Nat) (recs : List (String × Nat × List GtRes)) :
    recs.length ≤ (recs.flatMap (fun r => bcfEncodeRec contigs ncols r.1 r.2.1 r.2.2)).length :=
  length_le_length_flatMap _ recs fun r _ => by rw [bcfEncodeRec_eq]; exact nofun

theorem bcfDecode_bcfEncode (cols contigs : List String) (recs : List (String × Nat × List GtRes))
    (h : WfCallSet cols contigs recs) (hs : FitsBcf cols contigs recs) :
    bcfDecode (bcfEncode cols contigs recs) = some (cols, toRecs recs) := by
  have hhdr := parseVcfHeaderLines_headerLines cols contigs h.cols_ne h.cols_wf h.cols_nodup h.contigs_wf h.contigs_nodup []
  rw [List.append_nil, ← splitLines_headerText cols contigs h.cols_wf h.contigs_wf] at hhdr
  have e1 := leNat_toLe32 (headerText cols contigs ++ [0]).length (by rw [List.length_append]; exact hs.text)
  have t1 := takeN_append (headerText cols contigs ++ [0])
    (recs.flatMap (fun r => bcfEncodeRec contigs cols.length r.1 r.2.1 r.2.2)) rfl
  have hrecs := bcfRecords_encode cols contigs recs hs.ncols hs.ncontigs h.recs_wf hs.pos
    ((recs.flatMap (fun r => bcfEncodeRec contigs cols.length r.1 r.2.1 r.2.2)).length + 1) (by
      have := length_le_flatMap_bcfEncodeRec contigs cols.length recs; omega)
  simp only [bcfEncode, toLe32, List.cons_append, List.nil_append, bcfDecode, e1, t1]
  have hl : (headerText cols contigs ++ [0]).getLast? = some 0 := by simp
  have hd : (headerText cols contigs ++ [0]).dropLast = headerText cols contigs := by simp
  simp only [hl, hd, hhdr, hrecs, ne_eq, not_true_eq_false, and_false, if_false, Option.map_some]

end Sfs
