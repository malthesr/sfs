/-
The little-endian readers and writers of Model/Vcf and Model/Bgzf are `ofLeBytes` / `leBytes` of Model/F64, so the 32-bit
fields read back what was written; the 16-bit pair is plain arithmetic.
-/
import SfsModel.Model.Vcf
import SfsModel.Lemmas.Bytes
namespace Sfs

theorem leNat_eq_ofLeBytes : ∀ l, leNat l = ofLeBytes l
  | [] => rfl
  | b :: bs => by rw [leNat, ofLeBytes, leNat_eq_ofLeBytes bs]

theorem toLe32_eq_leBytes (n : Nat) : toLe32 n = leBytes 4 n := by
  simp [toLe32, leBytes, Nat.div_div_eq_div_mul]

/-- on the four bytes `toLe32 n` unfolds to: the readers get them one by one -/
theorem leNat_toLe32 (n : Nat) (h : n < 2 ^ 32) :
    leNat [n % 256, n / 256 % 256, n / 65536 % 256, n / 16777216 % 256] = n := by
  rw [leNat_eq_ofLeBytes, ← toLe32, toLe32_eq_leBytes, ofLeBytes_leBytes_of_lt 4 n h]

/-- the low three bytes of a word -/
theorem leNat_low3 (n : Nat) : leNat [n % 256, n / 256 % 256, n / 65536 % 256] = n % 16777216 := by
  have e : [n % 256, n / 256 % 256, n / 65536 % 256] = leBytes 3 n := by simp [leBytes, Nat.div_div_eq_div_mul]
  rw [leNat_eq_ofLeBytes, e, ofLeBytes_leBytes]

theorem le32_toLe32 (n : Nat) (h : n < 2 ^ 32) :
    le32 (n % 256) (n / 256 % 256) (n / 65536 % 256) (n / 16777216 % 256) = n := by
  have e (a b c d : Nat) : le32 a b c d = leNat [a, b, c, d] := by simp only [le32, leNat]; omega
  rw [e, leNat_toLe32 n h]

theorem le16_toLe16 (n : Nat) (h : n < 65536) : le16 (n % 256) (n / 256 % 256) = n := by
  unfold le16; omega

end Sfs
