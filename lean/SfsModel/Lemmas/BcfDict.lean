/-
`dictInsert` (noodles' `string_maps::insert`) puts an id where its `IDX` says, appends one without `IDX`, and never moves an entry
that is already in place.
-/
import SfsModel.Model.Vcf
namespace Sfs

def dictPad (d : List (Option String)) (i : Nat) : List (Option String) :=
  if i < d.length then d else d ++ List.replicate (i + 1 - d.length) none

theorem dictPad_length_gt (d : List (Option String)) (i : Nat) : i < (dictPad d i).length := by
  unfold dictPad
  split
  · assumption
  · simp only [List.length_append, List.length_replicate]; omega

theorem dictPad_getElem? (d : List (Option String)) (i j : Nat) (x : Option String) (h : d[j]? = some x) :
    (dictPad d i)[j]? = some x := by
  unfold dictPad
  split
  · exact h
  · rw [List.getElem?_append_left (List.getElem?_eq_some_iff.1 h).1]
    exact h

theorem dictInsert_some_eq (d : List (Option String)) (id : String) (i : Nat) :
    dictInsert d id (some i) =
      match d.idxOf? (some id) with
      | some j => if i = j then some d else none
      | none =>
        match (dictPad d i)[i]? with
        | some (some _) => none
        | _ => some ((dictPad d i).set i (some id)) := rfl

/-- With an `IDX` the id was already in its place, or is put there, the place being free. -/
theorem dictInsert_some_cases (d d' : List (Option String)) (id : String) (i : Nat)
    (h : dictInsert d id (some i) = some d') :
    (d' = d ∧ d[i]? = some (some id)) ∨
      (d' = (dictPad d i).set i (some id) ∧ ∀ x, (dictPad d i)[i]? ≠ some (some x)) := by
  rw [dictInsert_some_eq] at h
  split at h
  · next j hj =>
    split at h
    · next hij =>
      obtain ⟨hlt, he, _⟩ := List.idxOf?_eq_some_iff.1 hj
      exact .inl ⟨(Option.some.inj h).symm, by rw [hij, List.getElem?_eq_getElem hlt, he]⟩
    · cases h
  · split at h
    · cases h
    · next hno => exact .inr ⟨(Option.some.inj h).symm, fun x hx => hno x hx⟩

theorem dictInsert_idx (d d' : List (Option String)) (id : String) (i : Nat)
    (h : dictInsert d id (some i) = some d') : d'[i]? = some (some id) := by
  rcases dictInsert_some_cases d d' id i h with ⟨rfl, hi⟩ | ⟨rfl, -⟩
  · exact hi
  · exact List.getElem?_set_self (dictPad_length_gt d i)

theorem dictInsert_none (d : List (Option String)) (id : String) :
    dictInsert d id none = some (if d.contains (some id) then d else d ++ [some id]) := by
  show (if d.contains (some id) then some d else some (d ++ [some id])) = _
  split <;> rfl

theorem dictInsert_keeps (d d' : List (Option String)) (id : String) (idx : Option Nat) (j : Nat) (x : String)
    (h : dictInsert d id idx = some d') (hj : d[j]? = some (some x)) : d'[j]? = some (some x) := by
  cases idx with
  | none =>
    rw [dictInsert_none] at h
    cases h
    split
    · exact hj
    · rw [List.getElem?_append_left (List.getElem?_eq_some_iff.1 hj).1]
      exact hj
  | some i =>
    rcases dictInsert_some_cases d d' id i h with ⟨rfl, -⟩ | ⟨rfl, hfree⟩
    · exact hj
    · have hp := dictPad_getElem? d i j (some x) hj
      rw [List.getElem?_set_ne (fun e : i = j => hfree x (by subst e; exact hp))]
      exact hp

end Sfs
