/-
What the guards of C17 rest on: once `checked_elements` accepted a shape, the product over any sub-list of its axes
(strides, partial products, axis-view shapes) fits `usize`.
-/
import SfsModel.Model.Stat
import SfsModel.Lemmas.Index
namespace Sfs

theorem nzSize_le_of_sublist {t s : List Nat} (h : t.Sublist s) : nzSize t ≤ nzSize s := by
  induction h with
  | slnil => exact Nat.le_refl _
  | cons v _ ih => rw [nzSize_cons]; exact Nat.le_trans ih (Nat.le_mul_of_pos_left _ (by omega))
  | cons_cons v _ ih => exact Nat.mul_le_mul_left _ ih

theorem size_lt_of_sublist {t s : List Nat} {n : Nat} (h : checkedSize s = some n) (ht : t.Sublist s) :
    size t < 2 ^ 64 :=
  Nat.lt_of_le_of_lt (Nat.le_trans (size_le_nzSize t) (nzSize_le_of_sublist ht)) (checkedSize_eq_some s n h).1

theorem mem_strides (s : List Nat) : ∀ v ∈ strides s, ∃ t, t.Sublist s ∧ v = size t := by
  induction s with
  | nil => simp [strides]
  | cons w s ih =>
    intro v hv
    rcases List.mem_cons.1 hv with rfl | hv
    · exact ⟨s, List.sublist_cons_self w s, rfl⟩
    · obtain ⟨t, ht, rfl⟩ := ih v hv
      exact ⟨t, ht.cons w, rfl⟩

theorem needDim_cases {α} (a : Arr α) (d : Nat) (v : StatVal α) :
    needDim a d v = .ok v ∨ (needDim a d v = .error (.dimension d a.shape.length) ∧ d ≠ a.shape.length) := by
  unfold needDim
  split
  · exact Or.inl rfl
  · exact Or.inr ⟨rfl, fun h => ‹¬_› h.symm⟩

theorem need33_cases {α} (a : Arr α) (v : StatVal α) :
    need33 a v = .ok v ∨ (need33 a v = .error (.shape a.shape) ∧ a.shape ≠ [3, 3]) := by
  unfold need33
  split
  · exact Or.inl rfl
  · exact Or.inr ⟨rfl, ‹_›⟩

namespace C17

/-- the cells `PiXY::from_spectrum_unchecked` visits (after `take(elements - 1).skip(1)`) -/
def pixyCells (shape : List Nat) (len : Nat) : List (Nat × Nat) :=
  let n1 := shape.getD 0 0 - 1
  let n2 := shape.getD 1 0 - 1
  (((List.range (n1 + 1)).flatMap (fun m1 => (List.range (n2 + 1)).map (fun m2 => (m1, m2)))).take (len - 1)).drop 1

end C17

theorem pixyCells_bounds (x y : Nat) (m : Nat × Nat) (hm : m ∈ C17.pixyCells [x, y] (x * y)) :
    m.1 ≤ x - 1 ∧ m.2 ≤ y - 1 ∧ m.1 < x ∧ m.2 < y := by
  have hk : x * y - 1 ≠ 0 := fun h0 => by rw [C17.pixyCells, h0] at hm; simp at hm
  have hm2 := List.mem_of_mem_take (List.mem_of_mem_drop hm)
  simp only [List.getD_cons_zero, List.getD_cons_succ, List.mem_flatMap, List.mem_range, List.mem_map] at hm2
  obtain ⟨a, ha, b, hb, rfl⟩ := hm2
  -- at least two cells, so neither axis is empty
  have hxy : 0 < x * y := by omega
  have hx := Nat.pos_of_mul_pos_right hxy
  have hy := Nat.pos_of_mul_pos_left hxy
  omega

end Sfs
