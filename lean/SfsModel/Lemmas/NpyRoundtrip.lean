/-
The npy reader on what the npy writer emits: the written header is a v1.0 frame whose dictionary bytes are ASCII and
parse back (`npyHeader_frame`), so `readNpy (hd ++ body)` is the value loop and the size check.
-/
import SfsModel.Lemmas.NpyFrame
import SfsModel.Lemmas.NpyGrammar
namespace Sfs

theorem npyHeader_eq_some (shape : List Nat) (h : (npyDict shape).length + 64 < 65536) :
    ∃ hd, npyHeader shape = some hd := by
  cases hh : npyHeader shape with
  | some hd => exact ⟨hd, rfl⟩
  | none => have := (npyHeader_none_iff shape).mp hh; omega

/-- Everything before the values is `10 + L` bytes, a multiple of 64. -/
theorem npyHeader_length (shape hd : List Nat) (hh : npyHeader shape = some hd) : hd.length % 64 = 0 := by
  obtain ⟨L, pad, rfl, hL, h64, -, -⟩ := npyHeader_layout shape hd hh
  simp only [List.length_append, npyMagic, List.length_cons, List.length_nil, leBytes_length, asciiBytes_length,
    List.length_replicate]
  omega

theorem flatten_leBytes_length (k : Nat) (l : List Nat) : ((l.map (leBytes k)).flatten).length = k * l.length :=
  List.flatMap_def ▸ length_flatMap_const (leBytes k) k l fun b _ => leBytes_length k b

theorem npyDict_ascii (shape : List Nat) : ∀ c ∈ npyDict shape, c.toNat < 128 := by
  intro c hc
  unfold npyDict at hc
  -- no UTF-8 decoding
  rw [String.toList_ofList, String.toList_ofList, String.toList_ofList] at hc
  simp only [List.mem_append] at hc
  rcases hc with (hc | hc) | hc
  · revert c; decide +kernel
  · rcases spec_joinNats_chars _ _ c hc with h | h
    · exact isDigit_lt128 h
    · clear hc; revert c; decide +kernel
  · revert c; decide +kernel

/-- The header the writer emits as the reader sees it: version 1.0, a two-byte length field announcing the bytes `D`,
    which are ASCII and spell `npyDict shape` followed by the padding. -/
theorem npyHeader_frame (shape hd : List Nat) (hh : npyHeader shape = some hd) :
    ∃ D tail, hd = npyMagic ++ 1 :: 0 :: (leBytes 2 D.length ++ D) ∧ D.length < 65536 ∧ allAscii D = true ∧
      bytesToChars D = npyDict shape ++ tail := by
  obtain ⟨L, pad, rfl, hL, -, -, hlt⟩ := npyHeader_layout shape hd hh
  refine ⟨asciiBytes (npyDict shape) ++ (List.replicate pad 32 ++ [10]), bytesToChars (List.replicate pad 32 ++ [10]),
    ?_, ?_, ?_, ?_⟩
  · have : (asciiBytes (npyDict shape) ++ (List.replicate pad 32 ++ [10])).length = L := by simp; omega
    rw [this]; simp only [List.append_assoc, List.cons_append, List.nil_append]
  · simp; omega
  · rw [allAscii_append, allAscii_asciiBytes _ (npyDict_ascii shape)]
    simp [allAscii]
  · rw [bytesToChars_append, bytesToChars_asciiBytes]

theorem writeNpy_magic (shape bits bytes : List Nat) (hw : writeNpy shape bits = .ok bytes) :
    ∃ t, bytes = npyMagic ++ t := by
  obtain ⟨hd, hh, rfl⟩ := (writeNpy_ok_iff shape bits bytes).mp hw
  obtain ⟨D, _, rfl, _⟩ := npyHeader_frame shape hd hh
  exact ⟨_, List.append_assoc ..⟩

/-- `readNpy` on the writer's header followed by any `body` is the second stage on the dictionary bytes, which parse back. -/
theorem readNpy_npyHeader (shape hd : List Nat) (hh : npyHeader shape = some hd) (hne : shape ≠ [])
    (hb : ∀ v ∈ shape, v < 2 ^ 64) (body : List Nat) :
    ∃ D, readNpy (hd ++ body) = npyAfterHeader D body ∧ allAscii D = true ∧
      parseNpyDict (bytesToChars D) = some ⟨.little, .f8, false, shape⟩ := by
  obtain ⟨D, tail, rfl, hlt, hasc, hD⟩ := npyHeader_frame shape hd hh
  refine ⟨D, ?_, hasc, by rw [hD]; exact parseNpyDict_npyDict shape tail hne hb⟩
  have := readNpy_frame 1 0 (leBytes 2 D.length) D body (by rw [leBytes_length]; rfl) (ofLeBytes_leBytes_of_lt 2 _ hlt)
  simpa only [List.append_assoc, List.cons_append] using this

/-- Only the value loop and the size check remain. -/
theorem readNpy_written (shape hd : List Nat) (hh : npyHeader shape = some hd) (hne : shape ≠ [])
    (hb : ∀ v ∈ shape, v < 2 ^ 64) (body : List Nat) :
    readNpy (hd ++ body) =
      match readValues .little .f8 (body.length + 1) body with
      | .error e => .error e
      | .ok vals => if checkedSize shape = some vals.length then .ok (shape, vals) else .error .invalid := by
  obtain ⟨D, h, hasc, hD⟩ := readNpy_npyHeader shape hd hh hne hb body
  rw [h, npyAfterHeader, hasc, hD]
  rfl

/-- intact written header, but the body is not exactly the declared number of 8-byte values. -/
theorem readNpy_written_bad_body (shape hd : List Nat) (hh : npyHeader shape = some hd) (hne : shape ≠ [])
    (hb : ∀ v ∈ shape, v < 2 ^ 64) (n : Nat) (hsz : checkedSize shape = some n)
    (body : List Nat) (hbody : body.length ≠ 8 * n) : ∃ e, readNpy (hd ++ body) = .error e := by
  obtain ⟨D, h, hasc, hD⟩ := readNpy_npyHeader shape hd hh hne hb body
  rw [h]
  exact npyAfterHeader_bad_body D body _ n hasc hD hsz hbody

/-- A file cut inside the header. By `readNpy_ok_iff` an accepted prefix of a frame has the length field of the frame,
    hence all its announced bytes: it is the whole frame. -/
theorem readNpy_header_cut (shape hd : List Nat) (hh : npyHeader shape = some hd) (n : Nat) (hn : n < hd.length) :
    ∃ e, readNpy (hd.take n) = .error e := by
  obtain ⟨D, tail, rfl, hlt, -, -⟩ := npyHeader_frame shape hd hh
  cases hr : readNpy _ with
  | error e => exact ⟨e, rfl⟩
  | ok r =>
    obtain ⟨major, minor, lenB, dict, body, hb, hw, hL, -⟩ := readNpy_ok_iff.mp hr
    have hlen := congrArg List.length hb
    obtain ⟨t, ht⟩ := hb ▸ List.take_prefix n (npyMagic ++ 1 :: 0 :: (leBytes 2 D.length ++ D))
    simp only [List.append_assoc, List.cons_append, List.append_cancel_left_eq, List.cons.injEq] at ht
    obtain ⟨rfl, rfl, ht⟩ := ht
    have h2 : lenB.length = 2 := by simpa [npyLenWidth] using hw.symm
    obtain ⟨rfl, ht⟩ := List.append_inj ht (by rw [h2, leBytes_length])
    rw [ofLeBytes_leBytes_of_lt 2 _ hlt] at hL
    have := congrArg List.length ht
    simp only [List.length_append, List.length_take, List.length_cons, hL] at this hlen hn
    omega

-- By its own induction (the closed form `readValues_eq` speaks of `drop`/`take`, not of `flatten`).
theorem readValues_le_f8_flatten : ∀ (bits : List Nat) (fuel : Nat), (∀ b ∈ bits, b < 2 ^ 64) → bits.length ≤ fuel →
    readValues .little .f8 fuel ((bits.map (leBytes 8)).flatten) = .ok bits
  | [], fuel, _, _ => by cases fuel <;> simp [readValues]
  | b :: bs, fuel, hb, hf => by
    obtain ⟨f, rfl⟩ : ∃ f, fuel = f + 1 := ⟨fuel - 1, by simp at hf; omega⟩
    have ih := readValues_le_f8_flatten bs f (fun x hx => hb x (by simp [hx])) (by simp at hf; omega)
    have h8 : (leBytes 8 b).length = 8 := leBytes_length 8 b
    have hne : (leBytes 8 b ++ (bs.map (leBytes 8)).flatten).isEmpty = false :=
      List.isEmpty_eq_false_iff.2 (List.ne_nil_of_length_pos (by rw [List.length_append, h8]; omega))
    have hl : ¬ (leBytes 8 b ++ (bs.map (leBytes 8)).flatten).length < 8 := by
      simp only [List.length_append, h8]; omega
    simp only [List.map_cons, List.flatten_cons, readValues, NpyTy.width, hne, hl, if_false, Bool.false_eq_true,
      List.drop_left' h8, List.take_left' h8, ih, decodeValue, ofLeBytes_leBytes_of_lt 8 b (hb b (by simp))]

theorem detectFormat_npyMagic (t : List Nat) : detectFormat (npyMagic ++ t) = some .npy := by
  simp [detectFormat, npyMagic, textStart, asciiBytes]

/-- a file that does not start with `#` is either handed to the npy reader or rejected by detection. -/
theorem readSpectrum_not_text (b : List Nat) (h : b.head? ≠ some 35) :
    readSpectrum b = readNpy b ∨ readSpectrum b = .error .invalid := by
  have ht : textStart.isPrefixOf b = false := by
    cases b with
    | nil => rfl
    | cons x t =>
      have hx : x ≠ 35 := by simpa using h
      simp [textStart, asciiBytes, List.isPrefixOf, Ne.symm hx]
  unfold readSpectrum detectFormat
  simp only [ht]
  cases npyMagic.isPrefixOf b <;> simp

theorem readSpectrum_error_of_readNpy (b : List Nat) (h : b.head? ≠ some 35) (he : ∃ e, readNpy b = .error e) :
    ∃ e, readSpectrum b = .error e := by
  rcases readSpectrum_not_text b h with h' | h'
  · rw [h']; exact he
  · exact ⟨_, h'⟩

theorem npyMagic_take_head (t : List Nat) (n : Nat) : ((npyMagic ++ t).take n).head? ≠ some 35 := by
  rw [List.head?_take]
  split <;> simp [npyMagic]

theorem npyMagic_append_head (t extra : List Nat) : (npyMagic ++ t ++ extra).head? ≠ some 35 := by
  simp [npyMagic]

end Sfs
