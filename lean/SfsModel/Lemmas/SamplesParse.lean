/-
The `--samples` / `--samples-file` parsers on what C09 renders: `splitAll` through core's `splitOn`, `str::lines`
with either line ending.
-/
import SfsModel.Model.Create
import SfsModel.Lemmas.ListAux
namespace Sfs

theorem splitOnce_none (c : Char) (l : List Char) (h : c ∉ l) : splitOnce c l = none := by
  induction l with
  | nil => rfl
  | cons x xs ih =>
    simp only [List.mem_cons, not_or] at h
    simp [splitOnce, Ne.symm h.1, ih h.2]

theorem splitOnce_append (c : Char) (k v : List Char) (h : c ∉ k) : splitOnce c (k ++ c :: v) = some (k, v) := by
  induction k with
  | nil => simp [splitOnce]
  | cons x xs ih =>
    simp only [List.mem_cons, not_or] at h
    simp [splitOnce, Ne.symm h.1, ih h.2]

theorem parseSampleArg_named (k v : List Char) (h : '=' ∉ k) :
    parseSampleArg (k ++ '=' :: v) = (String.ofList k, .named (String.ofList v)) := by
  simp [parseSampleArg, splitOnce_append _ k v h]

theorem parseSampleArg_unnamed (k : List Char) (h : '=' ∉ k) :
    parseSampleArg k = (String.ofList k, .unnamed) := by
  simp [parseSampleArg, splitOnce_none _ k h]

theorem parseSampleLine_named (k v : List Char) (h : '\t' ∉ k) :
    parseSampleLine (k ++ '\t' :: v) = (String.ofList k, .named (String.ofList v)) := by
  simp [parseSampleLine, splitOnce_append _ k v h]

theorem parseSampleLine_unnamed (k : List Char) (h : '\t' ∉ k) :
    parseSampleLine k = (String.ofList k, .unnamed) := by
  simp [parseSampleLine, splitOnce_none _ k h]

theorem splitAll_eq (c : Char) (s : List Char) : splitAll c s = s.splitOn c :=
  eq_splitOnP (· == c) (splitAll c) rfl (fun x xs cur rest h => by simp [splitAll, h]) s

theorem splitAll_intercalate (c : Char) (items : List (List Char)) (hne : items ≠ [])
    (h : ∀ t ∈ items, c ∉ t) : splitAll c (List.intercalate [c] items) = items := by
  rw [splitAll_eq, List.splitOn_intercalate c h hne]

theorem splitAll_intercalate_nl (c : Char) (items : List (List Char)) (hne : items ≠ [])
    (h : ∀ t ∈ items, c ∉ t) : splitAll c (List.intercalate [c] items ++ [c]) = items ++ [[]] := by
  rw [intercalate_append_sep _ _ hne, splitAll_intercalate c _ (by simp)]
  intro t ht
  rcases List.mem_append.1 ht with ht | ht
  · exact h t ht
  · simp_all

theorem stripCr_of_not_cr (l : List Char) (h : l.getLast? ≠ some '\r') : stripCr l = l := by
  simp [stripCr, h]

theorem stripCr_append_cr (l : List Char) : stripCr (l ++ ['\r']) = l := by
  simp [stripCr]

/-- `str::lines`: every line ended by the line feed loses one carriage return; the unended rest is a line unless it
    is empty. -/
theorem parseSamplesFile_lines (ended : List (List Char)) (last : List Char)
    (h : ∀ t ∈ ended, '\n' ∉ t) (hl : '\n' ∉ last) :
    parseSamplesFile (['\n'].intercalate (ended ++ [last])) =
      (ended.map stripCr ++ (if last = [] then [] else [last])).map parseSampleLine := by
  unfold parseSamplesFile
  rw [splitAll_intercalate '\n' _ (by simp)
    (fun t ht => (List.mem_append.1 ht).elim (h t) (fun ht => by simp_all))]
  cases last <;> simp

/-- `e` is something `stripCr` takes off again (nothing, or a carriage return) -/
theorem parseSamplesFile_eol (e : List Char) (he : '\n' ∉ e) (init : List (List Char)) (last : List Char)
    (h : ∀ t ∈ init, '\n' ∉ t) (hl : '\n' ∉ last) (hs : ∀ t ∈ init, stripCr (t ++ e) = t) :
    parseSamplesFile ((e ++ ['\n']).intercalate (init ++ [last])) =
      (init ++ (if last = [] then [] else [last])).map parseSampleLine := by
  have h' : ∀ t ∈ init.map (· ++ e), '\n' ∉ t := by
    intro t ht
    obtain ⟨u, hu, rfl⟩ := List.mem_map.1 ht
    exact fun hm => (List.mem_append.1 hm).elim (h u hu) he
  have e1 : init.map (· ++ (e ++ ['\n'])) = (init.map (· ++ e)).map (· ++ ['\n']) := by
    rw [List.map_map]; exact List.map_congr_left fun t _ => (List.append_assoc ..).symm
  have e2 : (init.map (· ++ e)).map stripCr = init := by
    rw [List.map_map]; exact (List.map_congr_left hs).trans (List.map_id _)
  rw [intercalate_snoc, e1, ← intercalate_snoc, parseSamplesFile_lines _ last h' hl, e2]

theorem parseSamplesFile_terminated (e : List Char) (he : '\n' ∉ e) (items : List (List Char)) (hne : items ≠ [])
    (h : ∀ t ∈ items, '\n' ∉ t) (hs : ∀ t ∈ items, stripCr (t ++ e) = t) :
    parseSamplesFile ((e ++ ['\n']).intercalate items ++ (e ++ ['\n'])) = items.map parseSampleLine := by
  rw [intercalate_append_sep _ _ hne, parseSamplesFile_eol e he items [] h (by simp) hs]
  simp

theorem parseSamplesFile_unterminated (e : List Char) (he : '\n' ∉ e) (items : List (List Char)) (hne : items ≠ [])
    (h : ∀ t ∈ items, '\n' ∉ t) (hs : ∀ t ∈ items, stripCr (t ++ e) = t) (hl : items.getLast hne ≠ []) :
    parseSamplesFile ((e ++ ['\n']).intercalate items) = items.map parseSampleLine := by
  obtain ⟨init, last, rfl⟩ : ∃ init last, items = init ++ [last] := ⟨_, _, (List.dropLast_concat_getLast hne).symm⟩
  rw [List.getLast_concat] at hl
  rw [parseSamplesFile_eol e he init last (fun t ht => h t (by simp [ht])) (h last (by simp))
    (fun t ht => hs t (by simp [ht])), if_neg hl]

end Sfs
