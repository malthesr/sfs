/-
C12 — output depends only on call data, not container, transport, threads or run.  (partial: see DESIGN §8)
Proved here: the detection logic and that the result factors through the decoded call set, with the container codecs as
parameters; nothing in the model mentions thread counts, block layouts, transports or hash iteration order.
Explored (not proved): noodles' multithreaded BGZF reader, OS pipes, hash seeds — by the `c12.same` correspondence runs.
-/
import SfsModel.Model.Detect
import SfsModel.Lemmas.Samples
import SfsModel.Lemmas.Detect
namespace Sfs.C12
open Sfs

/-- detect_magic: gzip ⇔ the stream starts `1f 8b`; inside gzip, BCF ⇔ the payload starts "BCF"; uncompressed BCF ⇔ it
    starts "BCF"; everything else (a VCF starts "##fileformat") is plain VCF. -/
theorem detect_magic (inflate3 : List Nat → Option (List Nat)) (pfx : List Nat) :
    (gzipMagic.isPrefixOf pfx = true → ∀ b, inflate3 pfx = some b →
        detectContainer inflate3 pfx = .ok (if b = bcfMagic then .bcfGz else .vcfGz)) ∧
    (gzipMagic.isPrefixOf pfx = false → bcfMagic.isPrefixOf pfx = true → detectContainer inflate3 pfx = .ok .bcfRaw) ∧
    (gzipMagic.isPrefixOf pfx = false → bcfMagic.isPrefixOf pfx = false → detectContainer inflate3 pfx = .ok .vcf) :=
  ⟨fun hg b hb => detectContainer_gz inflate3 pfx b hg hb,
    fun hg hb => detectContainer_bcfRaw inflate3 pfx hg hb,
    fun hg hb => detectContainer_vcf inflate3 pfx hg hb⟩

/-- The prefix used for detection does not depend on how the stream is chunked (no failure injected). -/
theorem prefix_schedule_free (r : Rd) (h0 : r.avail = 0) (hf : r.failAt = none) :
    ∃ r', readPrefix r = .ok (r.data.take 65536, r') := by
  have hok : Rd.Ok r := ⟨by omega, hf⟩
  obtain ⟨r', he, _⟩ := (readPrefix_takes r hok.inv).ok hok
  exact ⟨r', he⟩

/-- … and the reader is left right behind the prefix, so that chaining the prefix back in front reproduces the stream. -/
theorem prefix_then_rest (r : Rd) (h0 : r.avail = 0) (hf : r.failAt = none) :
    ∃ r', readPrefix r = .ok (r.data.take 65536, r') ∧ r'.data = r.data.drop 65536 ∧ r'.failAt = none ∧
      r'.avail ≤ r'.data.length := by
  have hok : Rd.Ok r := ⟨by omega, hf⟩
  obtain ⟨r', he, hok', hd⟩ := (readPrefix_takes r hok.inv).ok hok
  exact ⟨r', he, hd, hok'.2, hok'.1⟩

/-- create_schedule_free: over any chunk schedule (first chunk of one byte, one byte at a time, …) `sfs create` computes
    what it computes on the whole byte string: detection and decoding see the same bytes. -/
theorem create_schedule_free (inflate3 : List Nat → Option (List Nat)) (decode : Container → List Nat → Option CallSet)
    (a : CreateArgs) (data sched : List Nat) :
    createFromRd inflate3 decode a { data := data, sched := sched, avail := 0, failAt := none } =
      createFromBytes inflate3 decode a data :=
  createFromRd_eq inflate3 decode a _ (Rd.Inv.fresh data sched)

/-- pipeline_factors_decoded: whenever detection picks container `c` and the codec of `c` decodes the bytes to the call set
    `cs`, the outcome is `createCli` of `cs` — so two inputs (any containers, any block layout) that decode to the same
    call set give the same stdout, summary and exit status. No encoder is assumed to exist. -/
theorem pipeline_factors_decoded (inflate3 : List Nat → Option (List Nat)) (decode : Container → List Nat → Option CallSet)
    (a : CreateArgs) (bytes : List Nat) (c : Container) (cs : CallSet)
    (hdet : detectContainer inflate3 (bytes.take 65536) = .ok c) (hdec : decode c bytes = some cs) :
    createFromBytes inflate3 decode a bytes = some (createCli a cs.1 cs.2) := by
  unfold createFromBytes
  rw [hdet]
  dsimp only
  rw [hdec]
  rfl

theorem same_calls_same_output (inflate3 : List Nat → Option (List Nat)) (decode : Container → List Nat → Option CallSet)
    (a : CreateArgs) (b b' : List Nat) (c c' : Container) (cs : CallSet)
    (hdet : detectContainer inflate3 (b.take 65536) = .ok c) (hdec : decode c b = some cs)
    (hdet' : detectContainer inflate3 (b'.take 65536) = .ok c') (hdec' : decode c' b' = some cs) :
    createFromBytes inflate3 decode a b = createFromBytes inflate3 decode a b' := by
  rw [pipeline_factors_decoded inflate3 decode a b c cs hdet hdec, pipeline_factors_decoded inflate3 decode a b' c' cs hdet' hdec']

/-- non-vacuity of the hypotheses of `same_calls_same_output`: a toy codec on two different byte strings. -/
example : ∃ (decode : Container → List Nat → Option CallSet) (b b' : List Nat) (cs : CallSet),
    b ≠ b' ∧ detectContainer (fun _ => some bcfMagic) (b.take 65536) = .ok .bcfGz ∧ decode .bcfGz b = some cs ∧
    detectContainer (fun _ => some bcfMagic) (b'.take 65536) = .ok .vcf ∧ decode .vcf b' = some cs :=
  ⟨fun _ _ => some (["s0"], []), [0x1f, 0x8b, 8], [35, 35], (["s0"], []), by decide, rfl, rfl, rfl, rfl⟩

/-- Encoders of the four containers, abstractly: what they must satisfy. -/
structure Codec where
  inflate3 : List Nat → Option (List Nat)
  decode : Container → List Nat → Option CallSet
  encode : Container → CallSet → List Nat
  /-- decoding inverts encoding -/
  roundtrip : ∀ c cs, decode c (encode c cs) = some cs
  /-- a plain VCF starts with `##fileformat`, hence neither magic -/
  vcf_magic : ∀ cs, gzipMagic.isPrefixOf ((encode .vcf cs).take 65536) = false ∧ bcfMagic.isPrefixOf ((encode .vcf cs).take 65536) = false
  bcf_magic : ∀ cs, gzipMagic.isPrefixOf ((encode .bcfRaw cs).take 65536) = false ∧ bcfMagic.isPrefixOf ((encode .bcfRaw cs).take 65536) = true
  vcfgz_magic : ∀ cs, gzipMagic.isPrefixOf ((encode .vcfGz cs).take 65536) = true ∧
    ∃ b, inflate3 ((encode .vcfGz cs).take 65536) = some b ∧ b ≠ bcfMagic
  bcfgz_magic : ∀ cs, gzipMagic.isPrefixOf ((encode .bcfGz cs).take 65536) = true ∧
    inflate3 ((encode .bcfGz cs).take 65536) = some bcfMagic

/-- pipeline_factors: for all four containers the result of `sfs create` on the encoded bytes is the pure function
    `createCli` of the call set — identical across containers by construction. -/
theorem pipeline_factors (k : Codec) (a : CreateArgs) (c : Container) (cs : CallSet) :
    createFromBytes k.inflate3 k.decode a (k.encode c cs) = some (createCli a cs.1 cs.2) := by
  refine pipeline_factors_decoded _ _ a _ c cs ?_ (k.roundtrip c cs)
  cases c with
  | vcf => exact detectContainer_vcf _ _ (k.vcf_magic cs).1 (k.vcf_magic cs).2
  | bcfRaw => exact detectContainer_bcfRaw _ _ (k.bcf_magic cs).1 (k.bcf_magic cs).2
  | bcfGz => rw [detectContainer_gz _ _ _ (k.bcfgz_magic cs).1 (k.bcfgz_magic cs).2, if_pos rfl]
  | vcfGz =>
    obtain ⟨hg, b, hb, hne⟩ := k.vcfgz_magic cs
    rw [detectContainer_gz _ _ b hg hb, if_neg hne]

theorem containers_agree (k : Codec) (a : CreateArgs) (c c' : Container) (cs : CallSet) :
    createFromBytes k.inflate3 k.decode a (k.encode c cs) = createFromBytes k.inflate3 k.decode a (k.encode c' cs) := by
  rw [pipeline_factors k a c cs, pipeline_factors k a c' cs]

/-- shape_by_lookup: the output shape reads the population sizes only by key; the order in which the sample map (or a
    hash map built from it) is iterated cannot reach the output. -/
theorem shape_by_lookup (m m' : List (String × Nat)) (hp : m.Perm m') :
    numPops m = numPops m' ∧ mapShape m = mapShape m' :=
  ⟨numPops_perm hp, mapShape_perm hp⟩

/-! non-vacuity -/
example : (detectContainer (fun _ => some bcfMagic) [0x1f, 0x8b, 8, 4]).toOption = some .bcfGz ∧
    (detectContainer (fun _ => none) [66, 67, 70, 2, 2]).toOption = some .bcfRaw ∧
    (detectContainer (fun _ => none) [35, 35, 102]).toOption = some .vcf := by decide

end Sfs.C12
