/-
C06 (command line) — `sfs stat` reports each requested statistic in the column it was asked for, computed on the spectrum
that was read: the i-th value of the row is the i-th statistic of `-s`, whatever else is requested in the same invocation
and in whatever order; the header row, if any, names the columns in the same order; a statistic computed in company has
the value it has alone. (What `statCli` transcribes: `Stat::run` + `Runner::run`, cli/src/stat.rs, cli/src/stat/runner.rs.)
Property theorems only.
-/
import SfsModel.Model.Stat
import SfsModel.Lemmas.StatCli
namespace Sfs.C06
open Sfs

variable {α : Type} [Add α] [Sub α] [Mul α] [Div α] [NatCast α] [OfNat α 0] [OfNat α 1]

/-- stat_row_order: the row has one entry per requested statistic, and entry i is `statCalc` of the i-th requested
    statistic on the spectrum, paired with the i-th precision (or the single common one). -/
theorem stat_row_order (kinds : List StatKind) (ps : List Nat) (header : Bool) (delim : Char) (a : Arr α)
    (hdr : Option String) (row : List (StatVal α × Nat)) (h : statCli kinds ps header delim a = .done hdr row) :
    row.length = kinds.length ∧
    ∀ i (hi : i < kinds.length), ∃ v, statCalc kinds[i] a = .ok v ∧ (row[i]?).map (·.1) = some v := by
  obtain ⟨ps', hl, _, hrow, _⟩ := statCli_done kinds ps header delim a hdr row h
  refine ⟨by rw [hrow, List.length_zip, List.length_map, hl, Nat.min_self], fun i hi => ⟨_, statCli_done_col kinds ps header delim a hdr row h i hi⟩⟩

/-- stat_alone_or_in_company: a statistic that is part of a successful multi-statistic invocation has, in its column,
    exactly the value a single-statistic invocation reports. -/
theorem stat_alone_or_in_company (kinds : List StatKind) (ps : List Nat) (header : Bool) (delim : Char) (a : Arr α)
    (hdr : Option String) (row : List (StatVal α × Nat)) (h : statCli kinds ps header delim a = .done hdr row)
    (i : Nat) (hi : i < kinds.length) (p : Nat) :
    ∃ v, statCli [kinds[i]] [p] false delim a = .done none [(v, p)] ∧ (row[i]?).map (·.1) = some v := by
  obtain ⟨hok, hcol⟩ := statCli_done_col kinds ps header delim a hdr row h i hi
  exact ⟨statValOf a kinds[i],
    statCli_single [kinds[i]] p delim a (by intro k hk; rw [List.mem_singleton.mp hk]; exact ⟨_, hok⟩), hcol⟩

/-- stat_header_order: the header row names the statistics in the requested order, separated by the delimiter. -/
theorem stat_header_order (kinds : List StatKind) (ps : List Nat) (delim : Char) (a : Arr α)
    (hdr : Option String) (row : List (StatVal α × Nat)) (h : statCli kinds ps true delim a = .done hdr row) :
    hdr = some (String.intercalate (String.singleton delim) (kinds.map StatKind.headerName)) := by
  obtain ⟨_, _, _, _, hh⟩ := statCli_done kinds ps true delim a hdr row h
  exact hh

/-- stat_permutation: requesting the same statistics in another order permutes the row accordingly. -/
theorem stat_permutation (kinds kinds' : List StatKind) (p : Nat) (delim : Char) (a : Arr α)
    (row row' : List (StatVal α × Nat)) (hp : kinds.Perm kinds')
    (h : statCli kinds [p] false delim a = .done none row) (h' : statCli kinds' [p] false delim a = .done none row') :
    row.Perm row' := by
  obtain ⟨_, _, hok, _, _⟩ := statCli_done kinds [p] false delim a none row h
  obtain ⟨_, _, hok', _, _⟩ := statCli_done kinds' [p] false delim a none row' h'
  rw [statCli_single kinds p delim a hok] at h
  rw [statCli_single kinds' p delim a hok'] at h'
  simp only [StatCliOut.done.injEq, true_and] at h h'
  rw [← h, ← h']
  exact hp.map _

/-! non-vacuity -/
example : ∃ row, statCli (α := Rat) [.sum, .s, .piXY, .f2] [6] false ',' ⟨[10, 4, 1, 3, 2, 0, 2, 0, 0], [3, 3]⟩ = .done none row ∧ row.length = 4 := by
  have hok : ∀ k ∈ [StatKind.sum, .s, .piXY, .f2], ∃ v, statCalc (α := Rat) k ⟨[10, 4, 1, 3, 2, 0, 2, 0, 0], [3, 3]⟩ = .ok v := by
    intro k hk
    simp only [List.mem_cons, List.not_mem_nil, or_false] at hk
    rcases hk with rfl | rfl | rfl | rfl <;> exact ⟨_, rfl⟩
  exact ⟨_, statCli_single _ 6 ',' _ hok, rfl⟩

end Sfs.C06
