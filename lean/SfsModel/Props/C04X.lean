/-
C04 (extension) — marginalizing populations out of the joint spectrum of a call set gives the spectrum of the same sites
with those populations ignored: for call sets that are complete on all selected samples this is the spectrum `create`
produces for the remaining populations. Property theorems only.
-/
import SfsModel.Props.C04
import SfsModel.Lemmas.MargSites
namespace Sfs.C04
open Sfs Sfs.C06

variable {α : Type} [Field α] [CharZero α]

/-- marginal_is_spectrum: if `x` is the spectrum of the sites `ks` (per-population ALT counts), then its marginal over
    the removed axes is the spectrum of the sites with those populations dropped, over the remaining axes. -/
theorem marginal_is_spectrum (shape : List Nat) (ks : List (List Nat)) (x : List α) (h : IsSpectrumOf shape ks x)
    (axes : List Nat) (m : Arr α) (hm : marginalize ⟨x, shape⟩ axes = .ok m) :
    IsSpectrumOf (dropAxes axes shape) (ks.map (dropAxes axes)) m.data ∧ m.shape = dropAxes axes shape := by
  have hM := marginalize_spec (⟨x, shape⟩ : Arr α) m axes h.length hm
  simp only [dropAxes_eq_dropIdx]
  exact ⟨hM.isSpectrumOf ks h, hM.1⟩

/-- … in particular the joint spectrum of populations (A, B) marginalized over B counts, in cell `k_A`, the sites with
    `k_A` ALT alleles in A whatever B carries. -/
theorem marginal_counts (shape : List Nat) (ks : List (List Nat)) (x : List α) (h : IsSpectrumOf shape ks x)
    (axes : List Nat) (m : Arr α) (hm : marginalize ⟨x, shape⟩ axes = .ok m) (k' : List Nat)
    (hk : InB (dropAxes axes shape) k') :
    m.data.getD (flat (dropAxes axes shape) k') 0 = (((ks.filter (fun k => dropAxes axes k = k')).length : Nat) : α) := by
  simp only [dropAxes_eq_dropIdx] at hk ⊢
  exact (marginalize_spec (⟨x, shape⟩ : Arr α) m axes h.length hm).counts ks h k' hk

/-! non-vacuity -/
example : (marginalize (⟨[0, 0, 0, 2, 0, 0, 0, 1, 0, 0, 0, 0, 0, 0, 1], [5, 3]⟩ : Arr Rat) [1]).toOption.map (·.data) = some [0, 2, 1, 0, 1] := by
  decide +kernel

end Sfs.C04
