/-
C18 (stdout) — what is written to standard output reaches the descriptor or the failure is reported: `write_to_stdout` goes through
stdout's line writer and flushes it (fix 9e7cf6d, defect F35). Property theorems only; the model is `Model/Stdout.lean`.
-/
import SfsModel.Model.Stdout
import SfsModel.Lemmas.IoSchedule
import SfsModel.Lemmas.StdoutWr
namespace Sfs.C18
open Sfs

/-- stdout_delivers: through a descriptor that never fails — whatever the lengths of its short writes — the flushed writer delivers
    exactly the concatenation of the pieces, for any sequence of `write_all` calls. -/
theorem stdout_delivers (pieces : List (List Nat)) (sched : List Nat) :
    ∃ w', stdoutWrite pieces { sched := sched, failAt := none } = .ok w' ∧ w'.out = pieces.flatten ∧ w'.failAt = none :=
  (stdoutWrite_appends pieces _).ok rfl

/-- stdout_failure_surfaces: if the descriptor fails before every byte is through (at any offset, under any schedule of short
    writes), the flushed writer reports the I/O error — in particular when the failure lies in the tail that the line writer had
    still buffered when the last piece was written. -/
theorem stdout_failure_surfaces (pieces : List (List Nat)) (sched : List Nat) (k : Nat) (hk : k < pieces.flatten.length) :
    stdoutWrite pieces { sched := sched, failAt := some k } = .error .io :=
  (stdoutWrite_appends pieces _).io rfl hk

/-- unflushed_tail_is_buffered: bytes without a line feed that fit the buffer do not reach the descriptor at all — which is why,
    without the final flush, a failing descriptor went unnoticed (F35). -/
theorem unflushed_tail_is_buffered (l : LineWr) (b : List Nat) (hnl : 10 ∉ b) (hlast : l.buf.getLast? ≠ some 10)
    (hfit : l.buf.length + b.length ≤ LineWr.cap) (hlt : b.length < LineWr.cap) :
    l.writeAll b = .ok { l with buf := l.buf ++ b } :=
  LineWr.writeAll_buffers l b hnl hlast hfit hlt

/-- The pieces of the stdout model are those of the npy writer … -/
theorem npy_pieces_are_the_writer (shape bits : List Nat) (w : Wr) (ps : List (List Nat)) (h : npyPieces shape bits = some ps) :
    writeNpyWr shape bits w = w.writePieces ps := by
  rw [writeNpyWr_pieces, h]

/-- … and of the text writer. -/
theorem text_pieces_are_the_writer (shape bits : List Nat) (p : Nat) (w : Wr) :
    writeTextWr shape bits p w = w.writePieces (textPieces shape bits p) :=
  writeTextWr_pieces shape bits p w

/-! non-vacuity, and the defect itself on a small instance: a line, then a tail of two bytes, the descriptor failing after four bytes —
    flushed: the error; unflushed: "success" with the line only -/
example : stdoutWrite [[1, 2, 10], [7, 8]] { failAt := some 4 } = .error .io ∧
    (∃ w, stdoutWriteUnflushed [[1, 2, 10], [7, 8]] { failAt := some 4 } = .ok w ∧ w.out = [1, 2, 10]) ∧
    (∃ w, stdoutWrite [[1, 2, 10], [7, 8]] { failAt := none } = .ok w ∧ w.out = [1, 2, 10, 7, 8]) :=
  ⟨rfl, ⟨_, rfl, rfl⟩, ⟨_, rfl, rfl⟩⟩

end Sfs.C18
