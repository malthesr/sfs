/-
C17 — every invocation ends in success or a diagnosed error, never a panic.  (partial: see DESIGN §8)
In Rust the panics of sfs's own code can only come from slice / array indexing, `usize` subtraction and multiplication
(overflow checks are on in the profile the test suite runs), `unwrap` / `expect`, and formatting with an out-of-range
precision. The Lean model is total, so "no panic" is stated here operation by operation: for every such partial
operation in the transcribed code, the precondition it needs (index in range, minuend ≥ subtrahend, product below
2^64, `Some`) follows — for every shape and every input — from the validation the code performs before it.
Third-party parsing (noodles, clap, nom, flate2) is explored by the `pn.*` correspondence runs, not proved.
Property theorems only.
-/
import SfsModel.Model.Stat
import SfsModel.Model.Npy
import SfsModel.Model.Create
import SfsModel.Model.SpecCli
import SfsModel.Props.C19
import SfsModel.Lemmas.Guards
import SfsModel.Lemmas.NpyFrame
import SfsModel.Lemmas.Samples
namespace Sfs.C17
open Sfs

/-! ## shapes: no `usize` overflow once `Array::new` accepted the shape (fixes 3fdf991, 004eece) -/

/-- products_fit: every product of a contiguous range of axis lengths — `Shape::elements`, every stride, the running
    quotient of `index_from_flat` — fits 64 bits. (So does the product over any sub-list of the axes, such as the
    shape of an axis view: `size_lt_of_sublist`.) -/
theorem products_fit (s : List Nat) (n : Nat) (h : checkedSize s = some n) (i j : Nat) :
    size ((s.drop i).take j) < 2 ^ 64 :=
  size_lt_of_sublist h ((List.take_sublist _ _).trans (List.drop_sublist _ _))

theorem strides_fit (s : List Nat) (n : Nat) (h : checkedSize s = some n) : ∀ v ∈ strides s, v < 2 ^ 64 := by
  intro v hv
  obtain ⟨t, ht, rfl⟩ := mem_strides s v hv
  exact size_lt_of_sublist h ht

/-- The absurd declared shapes of the property are rejected by `Array::new`, not multiplied out. -/
theorem absurd_shapes_rejected :
    checkedSize [4294967296, 4294967296] = none ∧ checkedSize [0, 4294967296, 4294967296] = none ∧
    checkedSize [4294967296, 4294967296, 0] = none ∧ checkedSize [18446744073709551615, 2] = none := by
  decide

/-! ## indexing: a spectrum is only ever read at positions below its length -/

/-- `Index<[usize]>` / `flat_index`: in bounds ⇒ below the data length (the `expect` in `Index::index` cannot fire for
    the indices the statistics use, below). -/
theorem flat_index_in_range {α} (a : Arr α) (hlen : a.data.length = size a.shape) (idx : List Nat) (h : InB a.shape idx) :
    flat a.shape idx < a.data.length := by
  rw [hlen]; exact flat_lt a.shape idx h

/-- pixy_guards: for every 2-axis shape (zero-length axes included) each visited cell is a valid index, and the
    subtractions `n2 - m2`, `n1 - m1` do not underflow. -/
theorem pixy_guards {α} (a : Arr α) (hlen : a.data.length = size a.shape) (h2 : a.shape.length = 2) :
    ∀ m ∈ pixyCells a.shape a.data.length,
      m.1 ≤ a.shape.getD 0 0 - 1 ∧ m.2 ≤ a.shape.getD 1 0 - 1 ∧ InB a.shape [m.1, m.2] := by
  obtain ⟨x, y, hs⟩ := List.length_eq_two.1 h2
  rw [hs] at hlen ⊢
  rw [hlen.trans (congrArg (x * ·) (Nat.mul_one y))]
  intro m hm
  have h := pixyCells_bounds x y m hm
  exact ⟨h.1, h.2.1, ⟨h.2.2.1, h.2.2.2, trivial⟩⟩

/-- kinship_guards: behind the `shape == [3, 3]` test all nine cells exist. -/
theorem kinship_guards {α} (a : Arr α) (hlen : a.data.length = size a.shape) (h33 : a.shape = [3, 3]) :
    ∀ r c, r < 3 → c < 3 → InB a.shape [r, c] ∧ 3 * r + c < a.data.length := by
  intro r c hr hc
  rw [hlen, h33]
  exact ⟨⟨hr, hc, trivial⟩, by simp only [size]; omega⟩

/-- theta_guards: in `estimate_unchecked` every visited class `i` satisfies `1 ≤ i < n`, so `n - i` (Tajima's weight)
    does not underflow and `binomial(n, 2)` is only used with `n ≥ 2`. -/
theorem theta_guards {α} (x : List α) : ∀ p ∈ interior (withIdx x), 1 ≤ p.1 ∧ p.1 < x.length - 1 ∧ 2 ≤ x.length - 1 := by
  intro p hp
  unfold interior withIdx at hp
  obtain ⟨i, hi, rfl⟩ := List.mem_iff_getElem.1 hp
  simp only [List.length_drop, List.length_take, List.length_zip, List.length_range, Nat.min_self] at hi
  simp only [List.getElem_drop, List.getElem_take, List.getElem_zip, List.getElem_range]
  omega

/-- fst_guards: behind the dimension test `shape[0]` and `shape[1]` exist; the frequencies iterator divides by
    `len - 1` only for axes of length ≥ 1 when there is at least one cell. -/
theorem fst_guards {α} (a : Arr α) (hlen : a.data.length = size a.shape) (h2 : a.shape.length = 2) (hne : a.data ≠ []) :
    a.shape[0]?.isSome ∧ a.shape[1]?.isSome ∧ ∀ v ∈ a.shape, 1 ≤ v := by
  refine ⟨?_, ?_, size_pos_iff.1 (hlen ▸ List.length_pos_iff.2 hne)⟩ <;> simp [h2]

/-- dispatch_total: every statistic on every spectrum ends in a value or in one of the two diagnosed errors, and the
    error is exactly the dimension / shape mismatch. -/
theorem dispatch_total (k : StatKind) (a : Arr Rat) :
    (∃ v, statCalc k a = .ok v) ∨ (∃ e d, statCalc k a = .error (.dimension e d) ∧ d = a.shape.length ∧ e ≠ d) ∨
      (statCalc k a = .error (.shape a.shape) ∧ a.shape ≠ [3, 3]) := by
  cases k
  case king | r0 | r1 => exact (need33_cases a _).imp (fun h => ⟨_, h⟩) Or.inr
  case s | sum => exact Or.inl ⟨_, rfl⟩
  all_goals exact (needDim_cases a _ _).imp (fun h => ⟨_, h⟩) fun h => Or.inl ⟨_, _, h.1, rfl, h.2⟩

/-! ## arithmetic in projection and the hypergeometric pmf -/

/-- hyper_guards: behind the zero test of `hypergeometric_pmf` (and with `successes ≤ size`, `draws ≤ size`, which
    projection validation establishes) none of `size - successes`, `draws - observed`, `n - k` in the binomials underflows. -/
theorem hyper_guards (N K n k : Nat) (hK : K ≤ N) (hn : n ≤ N) (h : ¬ (k > n ∨ k > K ∨ n - k > N - K)) :
    k ≤ n ∧ k ≤ K ∧ n - k ≤ N - K ∧ K ≤ N ∧ n ≤ N := by
  omega

/-- individuals_guard (fix f234794): `-p i` is turned into the shape `2 i + 1` with saturation, so an oversized value is
    rejected by the size validation instead of wrapping. -/
theorem individuals_guard (is : List Nat) : ∀ v ∈ individualsToShape is, v < 2 ^ 64 := by
  intro v hv
  simp only [individualsToShape, List.mem_map] at hv
  obtain ⟨i, _, rfl⟩ := hv
  omega

/-- writer_guards (fixes f9bbea1, 1c25a8d): the padding length is between 1 and 64, so `pad_len - 1` does not underflow
    and the newline has a slot; a header that does not fit the `u16` field is an error value, not an `expect`. -/
theorem writer_guards (shape : List Nat) :
    1 ≤ 64 - (10 + (npyDict shape).length) % 64 ∧ 64 - (10 + (npyDict shape).length) % 64 ≤ 64 ∧
    ((npyHeader shape).isNone ↔ 65536 ≤ (npyDict shape).length + (64 - (10 + (npyDict shape).length) % 64)) :=
  ⟨by omega, by omega, Option.isNone_iff_eq_none.trans (npyHeader_none_iff shape)⟩

/-- map_shape_guard (fix fa861d1): population ids are contiguous, so `population_sizes[id]` exists for every
    `id < number_of_populations` — the `unwrap` in `Map::shape` cannot fail, whatever the sample list (repeated samples
    included). -/
theorem map_shape_guard (l : List (String × Pop)) :
    ∀ id, id < numPops (sampleMap l) → ∃ p ∈ sampleMap l, p.2 = id := by
  intro id hid
  have h : id ∈ distinctInOrder ((sampleMap l).map (·.2)) := sampleMap_ids l ▸ List.mem_range.2 hid
  obtain ⟨p, hp, rfl⟩ := List.mem_map.1 (mem_distinctInOrder.1 h)
  exact ⟨p, hp, rfl⟩

/-- input_rule: `Input::new` refuses exactly the two contradictory situations, and only when `SFS_ALLOW_STDIN` is unset;
    otherwise a path wins over stdin. It never panics (no `unwrap` on the path). -/
theorem input_rule (p t e : Bool) :
    (inputNew p t e = none ↔ (e = false ∧ ((p = true ∧ t = false) ∨ (p = false ∧ t = true)))) ∧
    (∀ s, inputNew p t e = some s → (s = .path ↔ p = true)) := by
  revert p t e; decide

/-! non-vacuity -/
example : pixyCells [3, 2] 6 = [(0, 1), (1, 0), (1, 1), (2, 0)] ∧ pixyCells [0, 3] 0 = [] ∧ pixyCells [1, 1] 1 = [] := by decide

end Sfs.C17
