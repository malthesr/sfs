/-
C16 (truncation / extension) — every strict prefix and every extension of a valid npy file is rejected.
Property theorems only.
-/
import SfsModel.Props.C07Npy
namespace Sfs.C16
open Sfs Sfs.C07

/-- prefix_rejected: every strict prefix of a file the npy writer produced is rejected — whether the cut falls inside the
    magic, the version, the header length, the dict, the padding, inside a value or exactly between two values. -/
theorem prefix_rejected (shape bits bytes : List Nat) (hwf : WfSpectrum shape bits)
    (hw : writeNpy shape bits = .ok bytes) (n : Nat) (hn : n < bytes.length) :
    ∃ e, readNpy (bytes.take n) = .error e := by
  obtain ⟨hne, hb, hsz, _⟩ := hwf
  obtain ⟨hd, hh, rfl⟩ := (writeNpy_ok_iff shape bits bytes).mp hw
  rw [List.length_append, flatten_leBytes_length] at hn
  rw [List.take_append]
  by_cases hc : n < hd.length
  · rw [Nat.sub_eq_zero_of_le (Nat.le_of_lt hc), List.take_zero, List.append_nil]
    exact readNpy_header_cut shape hd hh n hc
  · rw [List.take_of_length_le (Nat.le_of_not_lt hc)]
    refine readNpy_written_bad_body shape hd hh hne hb _ hsz _ ?_
    rw [List.length_take, flatten_leBytes_length]; omega

/-- extension_rejected: a valid file followed by any non-empty sequence of extra bytes is rejected (a partial value, or
    more values than the shape declares). -/
theorem extension_rejected (shape bits bytes extra : List Nat) (hwf : WfSpectrum shape bits)
    (hw : writeNpy shape bits = .ok bytes) (hne : extra ≠ []) :
    ∃ e, readNpy (bytes ++ extra) = .error e := by
  obtain ⟨hne', hb, hsz, _⟩ := hwf
  obtain ⟨hd, hh, rfl⟩ := (writeNpy_ok_iff shape bits bytes).mp hw
  rw [List.append_assoc]
  refine readNpy_written_bad_body shape hd hh hne' hb _ hsz _ ?_
  have : 0 < extra.length := List.length_pos_iff.mpr hne
  rw [List.length_append, flatten_leBytes_length]; omega

/-- The same through format auto-detection (what `view`, `fold` and `stat` call). -/
theorem damaged_npy_rejected (shape bits bytes : List Nat) (hwf : WfSpectrum shape bits)
    (hw : writeNpy shape bits = .ok bytes) :
    (∀ n, n < bytes.length → ∃ e, readSpectrum (bytes.take n) = .error e) ∧
    (∀ extra, extra ≠ [] → ∃ e, readSpectrum (bytes ++ extra) = .error e) := by
  obtain ⟨t, ht⟩ := writeNpy_magic shape bits bytes hw
  constructor
  · intro n hn
    exact readSpectrum_error_of_readNpy _ (ht ▸ npyMagic_take_head t n) (prefix_rejected shape bits bytes hwf hw n hn)
  · intro extra hne
    exact readSpectrum_error_of_readNpy _ (ht ▸ npyMagic_append_head t extra)
      (extension_rejected shape bits bytes extra hwf hw hne)

/-! non-vacuity: a 2x3 file; its prefix at a value boundary and a one-value extension are both rejected. -/
example : (readNpy (((writeNpy [2, 3] [1, 2, 3, 4, 5, 6]).toOption.getD []).take (128 + 40))).toOption = none ∧
    (readNpy (((writeNpy [2, 3] [1, 2, 3, 4, 5, 6]).toOption.getD []) ++ [0, 0, 0, 0, 0, 0, 0, 0])).toOption = none ∧
    (readNpy ((writeNpy [2, 3] [1, 2, 3, 4, 5, 6]).toOption.getD [])).toOption = some ([2, 3], [1, 2, 3, 4, 5, 6]) := by
  decide +kernel

end Sfs.C16
