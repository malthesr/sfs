/-
C15 (header grammar) — a parameterised family of spellings of the header dict is accepted; unsupported descr strings are not.
Property theorems only.
-/
import SfsModel.Model.Npy
import SfsModel.Lemmas.NpyGrammar
namespace Sfs.C15
open Sfs

/-- How a header dict may be spelled (numpy's own spelling is `q = '\''`, blanks before/after colon and comma = `0 1 0 1`, `trailing = true`,
    `lead = 0`, `trail = 0`, and `(a, b)` for the tuple). The comma after the last tuple element is spelled like the
    others here, so numpy's one-axis `(a,)` and the writer's `(a, b,)`, with no blank behind it, are not in this
    family; `parse_renderG` gives that comma its own spacing and covers them (`parseNpyDict_npyDict`). -/
structure Spelling where
  q : Char                 -- quote character
  beforeColon : Nat
  afterColon : Nat
  beforeComma : Nat
  afterComma : Nat
  trailing : Bool          -- comma after the last entry
  tupleTrailing : Bool     -- comma after the last tuple element
  lead : Nat               -- spaces after `{`
  trail : Nat              -- spaces before `}`

def sp (n : Nat) : List Char := List.replicate n ' '

def Spelling.comma (s : Spelling) : List Char := sp s.beforeComma ++ [','] ++ sp s.afterComma

def Spelling.entry (s : Spelling) (key value : List Char) : List Char :=
  [s.q] ++ key ++ [s.q] ++ sp s.beforeColon ++ [':'] ++ sp s.afterColon ++ value

def Spelling.tuple (s : Spelling) (shape : List Nat) : List Char :=
  ['('] ++ joinNats s.comma shape ++ (if s.tupleTrailing then s.comma else []) ++ [')']

def endianChar : Endian → Char
  | .little => '<'
  | .big => '>'

/-- The three entries in spelled form. -/
def Spelling.entries (s : Spelling) (d : NpyDict) : List (List Char) :=
  [s.entry "descr".toList ([s.q] ++ [endianChar d.endian] ++ d.ty.name ++ [s.q]),
   s.entry "fortran_order".toList (if d.fortran then "True".toList else "False".toList),
   s.entry "shape".toList (s.tuple d.shape)]

def joinChars (sep : List Char) : List (List Char) → List Char
  | [] => []
  | [a] => a
  | a :: rest => a ++ sep ++ joinChars sep rest

def Spelling.render (s : Spelling) (es : List (List Char)) : List Char :=
  ['{'] ++ sp s.lead ++ joinChars s.comma es ++ (if s.trailing then s.comma else []) ++ sp s.trail ++ ['}']

/-- grammar_accepts_numpy: both quote styles, any number of spaces around `:` and `,`, the three keys in any order,
    optional trailing commas (after the last entry and inside the tuple; the latter is mandatory in Python for one axis,
    which the hypothesis does not even need) — all read back as the same dictionary. Anything after `}` is ignored. -/
theorem grammar_accepts_numpy (s : Spelling) (d : NpyDict) (es : List (List Char)) (rest : List Char)
    (hq : s.q = '\'' ∨ s.q = '"') (hperm : es.Perm (s.entries d))
    (hne : d.shape ≠ []) (hb : ∀ v ∈ d.shape, v < 2 ^ 64) :
    parseNpyDict (s.render es ++ rest) = some d := by
  have hj : ∀ l : List (List Char), joinChars s.comma l = joinG s.comma l := by
    intro l
    induction l with
    | nil => rfl
    | cons a l ih => cases l with
      | nil => rfl
      | cons b l => show a ++ _ ++ joinChars _ (b :: l) = a ++ _ ++ joinG _ (b :: l); rw [ih]
  have hr : s.render es = renderG s.beforeComma s.afterComma s.trailing s.lead s.trail es := by
    unfold Spelling.render renderG; rw [hj]; rfl
  have hc : EndianOf (endianChar d.endian) d.endian := by
    unfold EndianOf endianChar; cases d.endian <;> simp
  rw [hr]
  -- `s.entries d` is `entriesG …` by unfolding; only `joinChars` (`hj`) is another recursion
  exact parse_renderG s.q hq s.beforeColon s.afterColon s.beforeComma s.afterComma s.trailing s.tupleTrailing
    s.beforeComma s.afterComma s.lead s.trail (endianChar d.endian) d hc es rest hperm hne hb

/-- `|` is accepted as a synonym of `<` (numpy spells one-byte types `|i1`, `|u1`). -/
theorem bar_is_little (t : NpyTy) (r : List Char) :
    pDescrValue ("'|".toList ++ t.name ++ '\'' :: r) = some ((.little, t), r) :=
  pDescrValue_hit '\'' (Or.inl rfl) '|' .little t (Or.inl ⟨Or.inr rfl, rfl⟩) r

/-- unsupported_descr_rejected: a quoted descr is accepted iff it is one byte-order character followed by exactly one of
    the ten supported type names (f2, b1, c8, c16, U…, O, structured dtypes … have no alternative in the grammar). -/
theorem descr_accepted_iff (body r : List Char) (e : Endian) (t : NpyTy)
    (hbody : body ≠ [] ∧ ∀ c ∈ body, c ≠ '\'') :
    pDescrValue ('\'' :: body ++ '\'' :: r) = some ((e, t), r) ↔
      ∃ c, body = c :: t.name ∧ ((c = '<' ∨ c = '|') ∧ e = .little ∨ c = '>' ∧ e = .big) :=
  pDescrValue_eq_some_iff '\'' (Or.inl rfl) body r e t hbody.1 hbody.2

/-! non-vacuity -/
example : (⟨'"', 2, 0, 1, 3, false, true, 1, 2⟩ : Spelling).render
    ((⟨'"', 2, 0, 1, 3, false, true, 1, 2⟩ : Spelling).entries ⟨.big, .u4, false, [3, 4]⟩) =
    "{ \"descr\"  :\">u4\" ,   \"fortran_order\"  :False ,   \"shape\"  :(3 ,   4 ,   )  }".toList := by
  -- no UTF-8 decoding
  rw [String.toList_ofList]
  decide +kernel

end Sfs.C15
