/-
C06 (end to end) — `sfs create | sfs stat`: the spectrum travels from `create` to `stat` as text at precision 0. What
`stat` reads is exactly what `create` counted (integers below 2^53 survive `{:.0}` + `f64::from_str` bit for bit), so the
genotype-level theorems of `C06G` apply to the piped spectrum. Property theorems only.
-/
import SfsModel.Model.Cli
import SfsModel.Props.C07
namespace Sfs.C06
open Sfs

/-- A count below 2^53 is a binary64 value: its pattern decodes to the integer itself. -/
theorem count_is_exact (n : Nat) (hn : n < 2 ^ 53) : f64OfBits (f64BitsOfRat (n : Rat)) = .fin (n : Rat) :=
  (f64BitsOfRat_natCast n hn).1

/-- … it is printed at precision 0 as its decimal digits … -/
theorem count_prints_as_integer (n : Nat) (hn : n < 2 ^ 53) : fmtFixed (f64BitsOfRat (n : Rat)) 0 = Nat.toDigits 10 n := by
  obtain ⟨hv, hlt⟩ := f64BitsOfRat_natCast n hn
  rw [fmtFixed_fin _ 0 _ hv, f64Sign_of_lt _ hlt, fmtRatFixed_eq, roundHE_natCast_prec0]
  simp only [fmtScaled, if_true, Nat.pow_zero, Nat.div_one, Bool.false_eq_true, if_false, List.nil_append]

/-- … and read back to the same bit pattern. -/
theorem count_text_roundtrip (n : Nat) (hn : n < 2 ^ 53) :
    parseF64 (fmtFixed (f64BitsOfRat (n : Rat)) 0) = some (f64BitsOfRat (n : Rat)) := by
  obtain ⟨hv, hlt⟩ := f64BitsOfRat_natCast n hn
  rw [parseF64_fmtFixed_fin _ 0 _ hv, f64Sign_of_lt _ hlt, roundHE_natCast_prec0, Nat.pow_zero, Nat.cast_one, div_one,
    if_neg Bool.false_ne_true, Nat.zero_add]
  unfold f64BitsOfRat
  rw [if_neg (not_lt.2 (Nat.cast_nonneg n))]

/-- create_stdout_reads_back: for a spectrum of counts (what `create` produces without projection, `C01.run_eq_spec`)
    the text `create` prints is read by `view` / `fold` / `stat` (auto-detected) as exactly that spectrum. -/
theorem create_stdout_reads_back (shape : List Nat) (counts : List Nat) (hne : shape ≠ [])
    (hb : ∀ v ∈ shape, v < 2 ^ 64) (hsz : checkedSize shape = some counts.length) (hc : ∀ c ∈ counts, c < 2 ^ 53) :
    readSpectrum (asciiBytes (writeText shape (counts.map (fun (c : Nat) => f64BitsOfRat (c : Rat))) 0)) =
      .ok (shape, counts.map (fun (c : Nat) => f64BitsOfRat (c : Rat))) := by
  have hwf : C07.WfSpectrum shape (counts.map (fun (c : Nat) => f64BitsOfRat (c : Rat))) := by
    refine ⟨hne, hb, by rw [List.length_map]; exact hsz, ?_⟩
    intro b hb'
    obtain ⟨c, hc', rfl⟩ := List.mem_map.1 hb'
    exact Nat.lt_trans (f64BitsOfRat_natCast c (hc c hc')).2 (by decide)
  obtain ⟨bits', hr, hm⟩ := C07.reads_what_it_writes_text shape _ 0 hwf
  have : bits' = counts.map (fun (c : Nat) => f64BitsOfRat (c : Rat)) := by
    apply (List.map_inj_right (fun _ _ => Option.some.inj)).1
    rw [hm, List.map_map, List.map_map]
    apply List.map_congr_left
    intro c hc'
    -- beta first: left to the unifier, `parseF64` is unfolded before the composition
    rw [Function.comp_apply, Function.comp_apply]
    exact count_text_roundtrip c (hc c hc')
  rw [hr, this]

/-! non-vacuity -/
example : (readSpectrum (asciiBytes (writeText [2, 3] ([4, 0, 17, 1, 9007199254740991, 2].map (fun (c : Nat) => f64BitsOfRat (c : Rat))) 0))).toOption
    = some ([2, 3], [4, 0, 17, 1, 9007199254740991, 2].map (fun (c : Nat) => f64BitsOfRat (c : Rat))) := by
  decide +kernel

end Sfs.C06
