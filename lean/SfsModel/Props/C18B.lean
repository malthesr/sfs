/-
C18 (call sets) — I/O errors surface when a call set is read: in the model of `sfs create` over a stream
(`createFromRd`: read-ahead prefix, detection, then everything the reader still delivers, decode, run), a reader that fails
at any byte offset up to and including the end of the stream makes the whole operation fail — no spectrum is produced from
the bytes that arrived before the failure. Holds for any codecs, in particular the concrete ones of `Model/Container.lean`.
(The implementation reads lazily through noodles and may stop even earlier, at a genotype error; the correspondence
injects failures at per-mille offsets of every container and requires an error or — only when the failure lies behind
the last byte actually needed — the complete result.) Property theorems only.
-/
import SfsModel.Model.Container
import SfsModel.Props.C18
import SfsModel.Props.C12B
namespace Sfs.C18
open Sfs

/-- create_read_failure_surfaces: a failing reader never yields a spectrum. -/
theorem create_read_failure_surfaces (inflate3 : List Nat → Option (List Nat)) (decode : Container → List Nat → Option CallSet)
    (a : CreateArgs) (data sched : List Nat) (k : Nat) (hk : k ≤ data.length) :
    createFromRd inflate3 decode a (Rd.fresh data sched (some k)) = none :=
  createFromRd_eq inflate3 decode a _ (Rd.Inv.fresh_failing data sched hk)

/-- … in particular with the concrete container codecs. -/
theorem create_read_failure_surfaces_bytes (a : CreateArgs) (data sched : List Nat) (k : Nat) (hk : k ≤ data.length) :
    createFromRd Sfs.inflate3 decodeContainer a (Rd.fresh data sched (some k)) = none :=
  create_read_failure_surfaces Sfs.inflate3 decodeContainer a data sched k hk

/-! non-vacuity: without the failure the same stream yields a result -/
example : (createFromRd Sfs.inflate3 decodeContainer {} (Rd.fresh (encodeContainer 7 ["s0"] ["1"] [("1", 5, [.genotype 1])] .vcf) [1, 2, 3] none)).isSome = true := by
  have hwf : WfCallSet ["s0"] ["1"] [("1", 5, [.genotype 1])] := by
    refine { cols_ne := by decide, cols_wf := ?_, cols_nodup := by decide, contigs_wf := ?_, contigs_nodup := by decide,
             recs_wf := ?_, pos_fits := ?_ }
    · simp only [List.mem_cons, List.not_mem_nil, or_false]
      rintro c rfl; unfold WfName; decide
    · simp only [List.mem_cons, List.not_mem_nil, or_false]
      rintro c rfl; unfold WfContig; decide
    · simp only [List.mem_cons, List.not_mem_nil, or_false]
      rintro r rfl; simp [WfGt]
    · simp only [List.mem_cons, List.not_mem_nil, or_false]
      rintro r rfl; decide
  -- a plain VCF needs the VCF round trip only; stated for every call set, so that nothing is evaluated on the way
  have key : ∀ cols contigs recs, WfCallSet cols contigs recs →
      (createFromRd Sfs.inflate3 decodeContainer {} (Rd.fresh (encodeContainer 7 cols contigs recs .vcf) [1, 2, 3] none)).isSome = true := by
    intro cols contigs recs h
    -- stated with its type: as an argument of the rewrite below it would be matched by unfolding `encodeContainer`
    have hdec : decodeContainer .vcf (encodeContainer 7 cols contigs recs .vcf) = some (cols, toRecs recs) :=
      vcfDecode_vcfEncode cols contigs recs h
    show (createFromRd Sfs.inflate3 decodeContainer {}
      { data := encodeContainer 7 cols contigs recs .vcf, sched := [1, 2, 3], avail := 0, failAt := none }).isSome = true
    rw [Sfs.C12.create_schedule_free, Sfs.C12.pipeline_factors_decoded _ _ _ _ .vcf _
      (Sfs.C12.detect_encoded 7 (by omega) _ _ _ _) hdec]
    rfl
  exact key _ _ _ hwf

end Sfs.C18
