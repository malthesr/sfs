/-
C13 — view = marginalize > project > mask > normalize, equal to chained single steps.
Property theorems only. `α` is any field of characteristic zero.
-/
import SfsModel.Model.Spectrum
import SfsModel.Lemmas.Index
import SfsModel.Lemmas.View
import Mathlib.Algebra.CharZero.Defs
namespace Sfs.C13
open Sfs

variable {α : Type} [Field α] [CharZero α]

/-- Bind for the view pipeline. -/
def andThen (r : Except ViewErr (Arr α)) (f : Arr α → Except ViewErr (Arr α)) : Except ViewErr (Arr α) :=
  match r with
  | .ok a => f a
  | .error e => .error e

/-- view_eq_chain: a single invocation with any combination of options equals four chained single-option
    invocations in the documented order marginalize > project > mask > normalize (absent options are no-ops). -/
theorem view_eq_chain (o : ViewOpts) (a : Arr α) :
    viewRun o a =
      andThen (andThen (andThen
        (viewRun { remove := o.remove, keep := o.keep } a)
        (viewRun { projectShape := o.projectShape, projectIndividuals := o.projectIndividuals }))
        (viewRun { mask := o.mask }))
        (viewRun { normalize := o.normalize }) := by
  rw [viewRun_eq_stages o a, viewRun_marg]
  cases margStage o.remove o.keep a with
  | error e => rfl
  | ok b =>
    simp only [andThen, viewRun_proj]
    cases projStage o.projectShape o.projectIndividuals b with
    | error e => rfl
    | ok c => simp only [viewRun_fin, finStage_split]

/-- `view` without options reproduces its input. -/
theorem view_noop (a : Arr α) : viewRun {} a = .ok a :=
  viewRun_noop a

/-- mask_spec: exactly the first and the last flat entry are zeroed, nothing else. -/
theorem mask_spec (x : List α) (i : Nat) (h : i < x.length) :
    (maskMonomorphic x)[i]? = if i = 0 ∨ i = x.length - 1 then some 0 else x[i]? :=
  maskMonomorphic_getElem? x i h

theorem mask_length (x : List α) : (maskMonomorphic x).length = x.length :=
  maskMonomorphic_length x

/-- The first flat entry is the all-zero index and the last one the all-maximum index. -/
theorem first_last_index (s : List Nat) (h : 0 < size s) :
    unflat s 0 = s.map (fun _ => 0) ∧ unflat s (size s - 1) = s.map (· - 1) :=
  ⟨unflat_zero_map s, unflat_last s h⟩

/-- normalize_spec: for a non-zero total the entries sum to one and all ratios are preserved. -/
theorem normalize_spec (x : List α) (h : x.sum ≠ 0) :
    (normalize x).sum = 1 ∧ (normalize x).length = x.length ∧
      ∀ i j, i < x.length → j < x.length →
        (normalize x).getD i 0 * x.getD j 0 = (normalize x).getD j 0 * x.getD i 0 :=
  ⟨normalize_sum x h, normalize_length x, fun i j _ _ => normalize_ratio x i j⟩

/-- `Spectrum::sum` (left fold) is the list sum. -/
theorem sumList_eq (x : List α) : sumList x = x.sum :=
  sumList_eq_sum x

/-! non-vacuity: 3-axis spectrum, all four options -/
example : (viewRun { remove := some [1], projectShape := some [2, 2], mask := true, normalize := true }
      (⟨(List.range 18).map (fun (n : Nat) => (n : Rat)), [3, 2, 3]⟩ : Arr Rat)).toOption.map (·.data)
    = some [0, (31 : Rat) / 102, (71 : Rat) / 102, 0] := by decide +kernel

end Sfs.C13
