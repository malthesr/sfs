/-
C08 — genotype to allele-count classification is total and exact.
Property theorems only.
-/
import SfsModel.Model.Create
import SfsModel.Lemmas.GtGrammar
import SfsModel.Lemmas.Selected
namespace Sfs.C08
open Sfs

/-- classify_spec: a diploid genotype with both alleles in {0,1} contributes the number of its alleles equal to ALT
    allele 1; missing when either allele is `.`; multiallelic when both are present and one is ≥ 2. -/
theorem classify_spec (a b : Option Nat) :
    classify [a, b] =
      match a, b with
      | some x, some y =>
        if x ≤ 1 ∧ y ≤ 1 then .genotype ((if x = 1 then 1 else 0) + (if y = 1 then 1 else 0))
        else .skipped .multiallelic
      | _, _ => .skipped .missing := by
  cases a with
  | none => cases b <;> rfl
  | some x =>
    cases b with
    | none => rfl
    | some y =>
      simp only [classify]
      by_cases h : x ≤ 1 ∧ y ≤ 1
      · have hx : x = 0 ∨ x = 1 := by omega
        have hy : y = 0 ∨ y = 1 := by omega
        rcases hx with rfl | rfl <;> rcases hy with rfl | rfl <;> rfl
      · simp [h]

/-- Any other ploidy is a ploidy error, whatever the alleles are — except the single missing allele, which is how a wholly
    missing genotype is spelled in BCF (and `|.` in VCF text): that one is missing. -/
theorem classify_ploidy (l : List (Option Nat)) (h : l.length ≠ 2) (h1 : l ≠ [none]) : classify l = .ploidyError := by
  match l, h, h1 with
  | [], _, _ => rfl
  | [none], _, h1 => exact absurd rfl h1
  | [some _], _, _ => rfl
  | [_, _], h, _ => exact absurd rfl h
  | _ :: _ :: _ :: _, _, _ => rfl

theorem classify_single_missing : classify [none] = .skipped .missing := by
  rfl

/-- The classification never yields an allele count above two. -/
theorem classify_range (l : List (Option Nat)) (k : Nat) (h : classify l = .genotype k) : k ≤ 2 := by
  -- only the first branch of `classify` yields a genotype, and there `k = a + b ≤ 2` was tested
  unfold classify at h
  split at h
  · split at h
    · split at h
      · split at h
        · cases h; assumption
        · cases h
      · cases h
    · cases h
  · cases h
  · cases h

/-- Phasing marks do not matter: replacing every `|` by `/` parses to the same alleles. -/
theorem parseGT_phasing (s : List Char) :
    parseGT (s.map (fun c => if c = '|' then '/' else c)) = parseGT s :=
  parseGT_map_unphase s

/-- parseGT_render: every GT string of the grammar alleles {., digits} x separators {/,|} x ploidy ≥ 1 parses to the
    allele list it spells (the lone `.` being the whole-field-missing spelling). -/
theorem parseGT_render (al : List (Option Nat)) (seps : List Char) (hne : al ≠ [])
    (hs : ∀ c ∈ seps, c = '/' ∨ c = '|') (hdot : al ≠ [none]) (hfit : ∀ n, some n ∈ al → n < 2 ^ 64) :
    parseGT (renderGT al seps) = some (some al) := by
  rw [parseGT_renderGT al seps hne hs hdot, if_pos fun a ha n hn => hfit n (Option.mem_def.1 hn ▸ ha)]

/-- … and an allele index that does not fit the machine word makes the whole GT string unparsable (the record is refused with
    "invalid allele"), wherever it stands. -/
theorem parseGT_index_overflow (al : List (Option Nat)) (seps : List Char) (hne : al ≠ [])
    (hs : ∀ c ∈ seps, c = '/' ∨ c = '|') (hbig : ∃ n, some n ∈ al ∧ 2 ^ 64 ≤ n) :
    parseGT (renderGT al seps) = none := by
  obtain ⟨n, hn, hb⟩ := hbig
  rw [parseGT_renderGT al seps hne hs (by rintro rfl; simp at hn), if_neg fun h => Nat.not_lt.2 hb (h _ hn n rfl)]

/-- A phasing separator in front of the first allele (VCF 4.4) does not change how the genotype is classified. -/
theorem parseGT_leading_sep (c : Char) (hc : c = '/' ∨ c = '|') (s : List Char)
    (hs : ∀ d, s.head? = some d → d ≠ '/' ∧ d ≠ '|') :
    (parseGT (c :: s)).map classifyField = (parseGT s).map classifyField := by
  have hcs : c :: s ≠ ['.'] := by
    intro h
    injection h with h1 _
    rcases hc with hc | hc <;> (rw [hc] at h1; revert h1; decide)
  unfold parseGT
  rw [if_neg hcs, stripLeadSep_cons_sep c hc]
  by_cases hdot : s = ['.']
  · -- the lone `.` becomes the one-allele list `[none]`, which is missing as well
    subst hdot; rfl
  · rw [if_neg hdot, stripLeadSep_of_head s hs]

/-- A `+` in front of an allele index is accepted (`usize::from_str`) and means the same index. -/
theorem parseAllele_plus (n : Nat) (h : n < 2 ^ 64) :
    parseAllele ('+' :: Nat.toDigits 10 n) = some (some n) ∧ parseAllele (Nat.toDigits 10 n) = some (some n) := by
  simp [parseAllele, toDigits_ne_dot n, parseAlleleIndex_toDigits n, parseAlleleIndex_plus_toDigits n, h]

theorem parseGT_dot : parseGT ['.'] = some none := by
  rfl

/-- The column loop aborts exactly when some selected column carries a ploidy error (columns and genotypes
    aligned). -/
theorem tally_none_iff (map : List (String × Nat)) (cols : List String) (gts : List GtRes) (st : SiteSt)
    (hl : cols.length = gts.length) :
    tally map cols gts st = none ↔
      ∃ i, i < cols.length ∧ (lookupPop map (cols.getD i "")).isSome ∧ gts.getD i (.skipped .missing) = .ploidyError := by
  -- `hl` only serves to turn "some selected pair" into "some index"
  rw [tally_eq_none_iff, hasPloidyError_iff]
  constructor
  · rintro ⟨p, hp, he⟩
    obtain ⟨i, hi, h1, h2⟩ := (mem_selected_iff map cols gts hl (.skipped .missing) p).1 hp
    exact ⟨i, hi, by rw [h1]; rfl, h2.trans he⟩
  · rintro ⟨i, hi, hs, he⟩
    obtain ⟨pid, hpid⟩ := Option.isSome_iff_exists.1 hs
    exact ⟨(pid, .ploidyError), (mem_selected_iff map cols gts hl _ _).2 ⟨i, hi, hpid, he⟩, rfl⟩

/-- ploidy_aborts: … and then the run fails with an error naming that record's contig and position, never a
    spectrum. -/
theorem ploidy_aborts {α} [Add α] [Mul α] [Div α] [NatCast α] [OfNat α 0] [OfNat α 1]
    (cfg : SiteCfg) (strict : Bool) (st : RunSt α) (c : String) (p : Nat) (gts : List GtRes)
    (hl : cfg.cols.length = gts.length)
    (h : ∃ i, i < cfg.cols.length ∧ (lookupPop cfg.map (cfg.cols.getD i "")).isSome ∧ gts.getD i (.skipped .missing) = .ploidyError) :
    runStep cfg strict st (.gts c p gts) = .error (.genotypeError c p) := by
  have ht : ∀ s, tally cfg.map cfg.cols gts s = none := fun s => (tally_none_iff cfg.map cfg.cols gts s hl).2 h
  simp only [runStep, readSite, ht]

theorem error_stops_run {α} [Add α] [Mul α] [Div α] [NatCast α] [OfNat α 0] [OfNat α 1]
    (cfg : SiteCfg) (strict : Bool) (st : RunSt α) (r : Rec) (rs : List Rec) (e : RunErr)
    (h : runStep cfg strict st r = .error e) : runLoop cfg strict st (r :: rs) = .error e := by
  simp only [runLoop, h]

/-- A ploidy error (or anything else) in a column that is not selected is ignored. -/
theorem unselected_ignored (map : List (String × Nat)) (cols : List String) (gts gts' : List GtRes) (st : SiteSt)
    (hl : cols.length = gts.length) (hl' : cols.length = gts'.length)
    (h : ∀ i, i < cols.length → (lookupPop map (cols.getD i "")).isSome → gts.getD i .ploidyError = gts'.getD i .ploidyError) :
    tally map cols gts st = tally map cols gts' st := by
  -- no corollary of `selected_congr`: the loop also records `lookupSampleId map c` of every skipped column
  induction cols generalizing gts gts' st with
  | nil => rfl
  | cons c cs ih =>
    match gts, gts', hl, hl' with
    | g :: gs, g' :: gs', hl, hl' =>
      obtain ⟨h0, hs⟩ := agree_selected_cons h
      have ih := fun st => ih gs gs' st (Nat.succ.inj hl) (Nat.succ.inj hl') hs
      rw [tally, tally]
      cases hlk : lookupPop map c with
      | none => exact ih st
      | some pid =>
        obtain rfl := h0 (hlk ▸ rfl)
        cases g <;> simp only [ih]

/-! non-vacuity -/
example : classify [some 0, some 2] = .skipped .multiallelic ∧ classify [some 1, some 1] = .genotype 2
    ∧ classify [none, some 1] = .skipped .missing ∧ classify [some 1] = .ploidyError
    ∧ classify [some 0, some 1, some 1] = .ploidyError ∧ classify [none] = .skipped .missing ∧ classify [] = .ploidyError := by decide
example : parseGT "|0/1".toList = some (some [some 0, some 1]) ∧ parseGT "0/+1".toList = some (some [some 0, some 1])
    ∧ parseGT "0/18446744073709551616".toList = none ∧ parseGT "0//1".toList = none ∧ parseGT "|.".toList = some (some [none]) := by
  repeat rw [String.toList_ofList]  -- literals read as character lists: no UTF-8 decoding in the kernel
  decide +kernel

end Sfs.C08
