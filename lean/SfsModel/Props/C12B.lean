/-
C12 (byte level) — the container codecs made concrete. `Props/C12.lean` proves that `sfs create` factors through the decoded
call set for *any* codecs, whenever detection picks a container and its codec decodes the bytes (`pipeline_factors_decoded`);
here both hypotheses are discharged, on every well-formed call set, for the executable models of the four containers
(`Model/Inflate.lean`, `Model/Bgzf.lean`, `Model/Vcf.lean`, `Model/Container.lean`):
DEFLATE stored blocks are inverted by the full inflate model, BGZF framing is independent of the block partition, the gzip
peek of `Format::detect` sees the first payload bytes, VCF text and BCF records decode to the call set they encode, and
therefore `createFromBytesC` — the whole pipeline from input bytes to stdout — gives the same result for the same call set
in every container and for every block size.
What stays outside: that noodles / flate2 implement these formats (validated by the byte-level correspondence cases
`ct.create`, in both directions: the model decodes the bytes given to the binary, and the binary reads bytes the model
encoded), compressed DEFLATE blocks in the theorems (the inflate model handles them and is exercised on flate2 output; the
round-trip theorem is for the stored encoder), threads, transports.
-/
import SfsModel.Spec.Container
import SfsModel.Lemmas.ContainerGlue
import SfsModel.Lemmas.BcfDict
import SfsModel.Props.C12
namespace Sfs.C12
open Sfs

/-- inflate_stored: the inflate model inverts the stored-block encoder and leaves what follows the stream untouched. -/
theorem inflate_stored (data rest : List Nat) (k : Nat) (hk : data.length ≤ 65535 * (k + 1)) :
    inflate (deflateStored k data ++ rest) = some (data, rest) :=
  inflate_deflateStored data rest k hk

/-- bgzf_block_roundtrip: one block written around a stored payload is read back as that payload. -/
theorem bgzf_block_roundtrip (payload rest : List Nat) (hb : IsBytes payload) (hl : payload.length ≤ 65280) :
    bgzfBlock (bgzfFrame (deflateStored 0 payload) payload ++ rest) = some (payload, rest) := by
  obtain ⟨⟨t, ht⟩, hc, hw, hl'⟩ := frameOk_stored payload (allLt_of_bytes hb) hl
  exact bgzfBlock_frame _ _ t rest ht hc hw hl'

/-- bgzf_roundtrip: the decoded stream is the concatenation of the chunk payloads (empty chunks included), whatever the partition. -/
theorem bgzf_roundtrip (chunks : List (List Nat)) (h : ∀ c ∈ chunks, IsBytes c ∧ c.length ≤ 65280) :
    bgzfDecodeAll (bgzfEncodeStored chunks) = some chunks.flatten :=
  bgzfDecodeAll_encodeStored chunks (fun c hc => ⟨allLt_of_bytes (h c hc).1, (h c hc).2⟩)

/-- bgzf_partition_free: two block partitions of the same payload decode to the same stream. -/
theorem bgzf_partition_free (chunks chunks' : List (List Nat)) (h : ∀ c ∈ chunks, IsBytes c ∧ c.length ≤ 65280)
    (h' : ∀ c ∈ chunks', IsBytes c ∧ c.length ≤ 65280) (hflat : chunks.flatten = chunks'.flatten) :
    bgzfDecodeAll (bgzfEncodeStored chunks) = bgzfDecodeAll (bgzfEncodeStored chunks') := by
  rw [bgzf_roundtrip chunks h, bgzf_roundtrip chunks' h', hflat]

/-- gzip_peek: the three bytes `Format::detect` reads through the gzip decoder are the first three payload bytes, as soon
    as the first block holds them (and the detection prefix of 64 KiB holds that block, which every BGZF block satisfies). -/
theorem gzip_peek (c : List Nat) (cs : List (List Nat)) (hb : IsBytes c) (hc : 3 ≤ c.length ∧ c.length ≤ 65280) :
    inflate3 ((bgzfEncodeStored (c :: cs)).take 65536) = some (c.take 3) :=
  inflate3_encodeStored c cs (allLt_of_bytes hb) hc

/-- vcf_roundtrip: VCF text decodes to the call set it was written from. -/
theorem vcf_roundtrip (cols contigs : List String) (recs : List (String × Nat × List GtRes))
    (h : WfCallSet cols contigs recs) :
    vcfDecode (vcfEncode cols contigs recs) = some (cols, toRecs recs) :=
  vcfDecode_vcfEncode cols contigs recs h

/-- bcf_roundtrip: BCF records decode to the same call set (contig by dictionary index, position 0-based on disk, GT as
    int8 vectors). -/
theorem bcf_roundtrip (cols contigs : List String) (recs : List (String × Nat × List GtRes))
    (h : WfCallSet cols contigs recs) (hs : FitsBcf cols contigs recs) :
    bcfDecode (bcfEncode cols contigs recs) = some (cols, toRecs recs) :=
  bcfDecode_bcfEncode cols contigs recs h hs

/-- detect_encoded: detection on the 64 KiB prefix picks the container that was written. -/
theorem detect_encoded (blk : Nat) (hblk : 3 ≤ blk ∧ blk ≤ 65280) (cols contigs : List String)
    (recs : List (String × Nat × List GtRes)) (c : Container) :
    detectContainer inflate3 ((encodeContainer blk cols contigs recs c).take 65536) = .ok c :=
  detectContainer_encodeContainer blk hblk cols contigs recs c

/-- containers_agree_bytes: for every well-formed call set, every container and every BGZF block size, the whole
    pipeline from input bytes to stdout / exit status computes `createCli` of the call set. -/
theorem containers_agree_bytes (a : CreateArgs) (blk : Nat) (hblk : 3 ≤ blk ∧ blk ≤ 65280) (cols contigs : List String)
    (recs : List (String × Nat × List GtRes)) (h : WfCallSet cols contigs recs) (hs : FitsBcf cols contigs recs)
    (c : Container) :
    createFromBytesC a (encodeContainer blk cols contigs recs c) = some (createCli a cols (toRecs recs)) :=
  pipeline_factors_decoded inflate3 decodeContainer a _ c (cols, toRecs recs) (detect_encoded blk hblk cols contigs recs c)
    (decodeContainer_encodeContainer blk ⟨by omega, hblk.2⟩ cols contigs recs h hs c)

/-- … hence two containers / two block sizes give the same outcome. -/
theorem same_bytes_outcome (a : CreateArgs) (blk blk' : Nat) (hblk : 3 ≤ blk ∧ blk ≤ 65280) (hblk' : 3 ≤ blk' ∧ blk' ≤ 65280)
    (cols contigs : List String) (recs : List (String × Nat × List GtRes)) (h : WfCallSet cols contigs recs)
    (hs : FitsBcf cols contigs recs) (c c' : Container) :
    createFromBytesC a (encodeContainer blk cols contigs recs c) =
      createFromBytesC a (encodeContainer blk' cols contigs recs c') := by
  rw [containers_agree_bytes a blk hblk cols contigs recs h hs c, containers_agree_bytes a blk' hblk' cols contigs recs h hs c']

/-- bgzf_concat_any: BGZF frames around *any* DEFLATE data — stored, fixed or dynamic Huffman blocks, as a real compressor
    writes them — decode to the concatenation of the payloads those data inflate to. The hypothesis `inflate cdata = payload`
    is what the driver evaluates on every flate2-compressed block of the byte-level cases. -/
theorem bgzf_concat_any (blocks : List (List Nat × List Nat))
    (h : ∀ b ∈ blocks, (∃ t, inflate b.1 = some (b.2, t)) ∧ b.1.length + 25 < 65536 ∧ IsBytes b.2 ∧ b.2.length < 2 ^ 32) :
    bgzfDecodeAll (bgzfFrames blocks) = some (blocks.map (·.2)).flatten :=
  bgzfDecodeAll_frames blocks (fun b hb => ⟨(h b hb).1, (h b hb).2.1, allLt_of_bytes (h b hb).2.2.1, (h b hb).2.2.2⟩)

/-- create_schedule_free_bytes: with the concrete codecs, `sfs create` over any chunk schedule of the input stream (first
    chunk of one byte, one byte at a time, …) equals `createFromBytesC` on the whole byte string. -/
theorem create_schedule_free_bytes (a : CreateArgs) (data sched : List Nat) :
    createFromRd inflate3 decodeContainer a { data := data, sched := sched, avail := 0, failAt := none } =
      createFromBytesC a data :=
  create_schedule_free inflate3 decodeContainer a data sched

/-- dict_idx_honoured: a header line carrying `IDX=i` puts its id at position `i` of the BCF dictionary (whatever the order of
    the lines), and an id that is already known must sit there — the keys of the records are resolved by position. -/
theorem dict_idx_honoured (d d' : List (Option String)) (id : String) (i : Nat)
    (h : dictInsert d id (some i) = some d') : d'[i]? = some (some id) :=
  dictInsert_idx d d' id i h

/-- dict_order_of_appearance: without `IDX`, a new id goes to the end of the dictionary and a known one changes nothing: the
    dictionary is the order of first appearance of the header lines (F36). -/
theorem dict_order_of_appearance (d : List (Option String)) (id : String) :
    dictInsert d id none = some (if d.contains (some id) then d else d ++ [some id]) :=
  dictInsert_none d id

/-- … in particular an id's position never depends on the lines that FOLLOW its own: later insertions keep every earlier entry in
    place. -/
theorem dict_insert_keeps_earlier (d d' : List (Option String)) (id : String) (idx : Option Nat) (j : Nat) (x : String)
    (h : dictInsert d id idx = some d') (hj : d[j]? = some (some x)) : d'[j]? = some (some x) :=
  dictInsert_keeps d d' id idx j x h hj

example : dictInsert [some "PASS"] "GT" (some 3) = some [some "PASS", none, none, some "GT"] ∧
    dictInsert [some "PASS", none, none, some "GT"] "DP" (some 1) = some [some "PASS", some "DP", none, some "GT"] ∧
    dictInsert [some "PASS", some "DP"] "DP" (some 2) = none ∧ dictInsert [some "PASS"] "GT" none = some [some "PASS", some "GT"] := by
  decide

/-! non-vacuity: a two-population call set with every genotype class satisfies the hypotheses -/
example : WfCallSet ["s0", "s1 x"] ["chr1", "2"]
    [("chr1", 5, [.genotype 0, .genotype 2]), ("2", 17, [.skipped .missing, .ploidyError]), ("2", 17, [.genotype 1, .skipped .multiallelic])] := by
  refine { cols_ne := by decide, cols_wf := ?_, cols_nodup := by decide, contigs_wf := ?_, contigs_nodup := by decide,
           recs_wf := ?_, pos_fits := ?_ }
  · simp only [List.mem_cons, List.not_mem_nil, or_false]
    rintro c (rfl | rfl) <;> (unfold WfName; decide)
  · simp only [List.mem_cons, List.not_mem_nil, or_false]
    rintro c (rfl | rfl) <;> (unfold WfContig; decide)
  · simp only [List.mem_cons, List.not_mem_nil, or_false]
    rintro r (rfl | rfl | rfl) <;> simp [WfGt]
  · simp only [List.mem_cons, List.not_mem_nil, or_false]
    rintro r (rfl | rfl | rfl) <;> decide

end Sfs.C12
