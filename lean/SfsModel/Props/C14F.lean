/-
C14 (folding) — pi, Watterson's theta, S, Tajima's D, pi_xy, f2, f3, f4, Fst, KING, R0 and R1 are unchanged by folding
with fill zero. Property theorems only. `α` is any field of characteristic zero.
-/
import SfsModel.Model.Stat
import SfsModel.Spec.Stat
import SfsModel.Lemmas.StatInvariance
namespace Sfs.C14
open Sfs Sfs.Spec

variable {α : Type} [Field α] [CharZero α]

/-- A well-formed spectrum: one value per cell, every population has at least one chromosome. -/
def Wf (a : Arr α) : Prop := a.data.length = size a.shape ∧ ∀ v ∈ a.shape, 2 ≤ v

theorem fold_invariant_S (a : Arr α) (h : Wf a) : segregating (foldZero a).data = segregating a.data := by
  rw [segregating_eq_wsum, segregating_eq_wsum, foldZero_length, h.1]
  exact wsum_foldZero a _ (onInterior_symm _ _ fun _ _ _ => rfl)

theorem fold_invariant_pi (a : Arr α) (h : Wf a) (h1 : a.shape.length = 1) : statPi (foldZero a).data = statPi a.data := by
  refine thetaEstimate_foldZero _ a h.1 fun i _ _ => ?_
  rw [tajimaWeight, tajimaWeight, Nat.sub_sub_self (by omega), Nat.mul_comm]

theorem fold_invariant_theta (a : Arr α) (h : Wf a) (h1 : a.shape.length = 1) :
    statTheta (foldZero a).data = statTheta a.data :=
  thetaEstimate_foldZero _ a h.1 fun _ _ _ => rfl

theorem fold_invariant_tajimaD (a : Arr α) (h : Wf a) (h1 : a.shape.length = 1) :
    (dTajima (foldZero a).data).num = (dTajima a.data).num ∧ (dTajima (foldZero a).data).var = (dTajima a.data).var := by
  simp only [dTajima, fold_invariant_pi a h h1, fold_invariant_theta a h h1, fold_invariant_S a h, foldZero_length, h.1,
    and_self]

theorem fold_invariant_pixy (a : Arr α) (h : Wf a) (h2 : a.shape.length = 2) : statPiXY (foldZero a) = statPiXY a := by
  obtain ⟨r, c, hs, hl, hr, hc⟩ := exists_shape_pair a h.1 h.2 h2
  have hsz : size a.shape = r * c := by rw [← h.1, hl]
  rw [statPiXY_eq_wsum a r c hs hl (by omega) (by omega),
    statPiXY_eq_wsum (foldZero a) r c hs (by rw [foldZero_length, hsz]) (by omega) (by omega), ← hsz]
  refine congrArg (· / _) (wsum_foldZero a _ (onInterior_symm _ _ fun i _ h1 => ?_))
  rw [hsz]
  exact pixyW_rev r c i (by omega)

theorem fold_invariant_f2 (a : Arr α) (h : Wf a) (h2 : a.shape.length = 2) :
    statF2 (normalized (foldZero a)) = statF2 (normalized a) := by
  refine freqSum_foldZero _ a h.1 fun i hi => ?_
  rw [nth_freqs_rev a.shape h.2 i hi 0 (by omega), nth_freqs_rev a.shape h.2 i hi 1 (by omega)]
  ring

theorem fold_invariant_f3 (a : Arr α) (h : Wf a) (h3 : a.shape.length = 3) :
    statF3 (normalized (foldZero a)) = statF3 (normalized a) := by
  refine freqSum_foldZero _ a h.1 fun i hi => ?_
  rw [nth_freqs_rev a.shape h.2 i hi 0 (by omega), nth_freqs_rev a.shape h.2 i hi 1 (by omega),
    nth_freqs_rev a.shape h.2 i hi 2 (by omega)]
  ring

theorem fold_invariant_f4 (a : Arr α) (h : Wf a) (h4 : a.shape.length = 4) :
    statF4 (normalized (foldZero a)) = statF4 (normalized a) := by
  refine freqSum_foldZero _ a h.1 fun i hi => ?_
  rw [nth_freqs_rev a.shape h.2 i hi 0 (by omega), nth_freqs_rev a.shape h.2 i hi 1 (by omega),
    nth_freqs_rev a.shape h.2 i hi 2 (by omega), nth_freqs_rev a.shape h.2 i hi 3 (by omega)]
  ring

theorem fold_invariant_fst (a : Arr α) (h : Wf a) (h2 : a.shape.length = 2) :
    statFst (normalized (foldZero a)) = statFst (normalized a) := by
  rw [statFst, statFst, fstParts_normalized, fstParts_normalized, sumList_foldZero a h.1,
    fstParts_foldZero a h.1 h.2 h2]

theorem fold_invariant_king (a : Arr α) (h : Wf a) (h33 : a.shape = [3, 3]) : statKing (foldZero a) = statKing a :=
  (kin_congr (kinParts_foldZero a h33)).1

theorem fold_invariant_r0 (a : Arr α) (h : Wf a) (h33 : a.shape = [3, 3]) : statR0 (foldZero a) = statR0 a :=
  (kin_congr (kinParts_foldZero a h33)).2.1

theorem fold_invariant_r1 (a : Arr α) (h : Wf a) (h33 : a.shape = [3, 3]) : statR1 (foldZero a) = statR1 a :=
  (kin_congr (kinParts_foldZero a h33)).2.2

/-! non-vacuity -/
example : statPiXY (α := Rat) (foldZero ⟨[5, 1, 4, 2, 8, 3, 0, 7, 6, 9, 2, 1], [4, 3]⟩) = statPiXY ⟨[5, 1, 4, 2, 8, 3, 0, 7, 6, 9, 2, 1], [4, 3]⟩ ∧
    (foldZero (α := Rat) ⟨[5, 1, 4, 2, 8, 3, 0, 7, 6, 9, 2, 1], [4, 3]⟩).data ≠ [5, 1, 4, 2, 8, 3, 0, 7, 6, 9, 2, 1] := by
  decide +kernel

end Sfs.C14
