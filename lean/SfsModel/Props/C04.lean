/-
C04 — marginalization is the array sum over the removed axes.
Property theorems only. `α` is any commutative additive monoid (instantiated by `Rat` in the driver).
-/
import SfsModel.Model.Spectrum
import SfsModel.Lemmas.Marginalize
namespace Sfs.C04
open Sfs

variable {α : Type} [AddCommMonoid α]

/-- An index (or shape) with the positions listed in `A` deleted, the rest in original order. -/
def dropAxes {β} (A : List Nat) (l : List β) : List β :=
  (l.zipIdx.filter (fun p => !A.contains p.2)).map (·.1)

/-- glue: `dropAxes` is the `dropIdx` the helper lemmas are stated with (same body). -/
theorem dropAxes_eq_dropIdx {β} (A : List Nat) (l : List β) : dropAxes A l = Sfs.dropIdx A l := rfl

/-- marginalize_eq_spec: for a valid axis list (no duplicates, all in range, not all axes) in ANY order, the result
    lives over the remaining axes in their original order and entry `t` is the sum of all entries of the input whose
    index agrees with `t` on the remaining axes, i.e. the sum over all indices of the removed axes. -/
theorem marginalize_eq_spec (a : Arr α) (axes : List Nat)
    (hlen : a.data.length = size a.shape) (hnd : axes.Nodup)
    (hb : ∀ ax ∈ axes, ax < a.shape.length) (hl : axes.length < a.shape.length) :
    ∃ b, marginalize a axes = .ok b ∧ b.shape = dropAxes axes a.shape ∧
      b.data = (List.range (size (dropAxes axes a.shape))).map (fun t =>
        ∑ f ∈ Finset.range (size a.shape),
          if dropAxes axes (unflat a.shape f) = unflat (dropAxes axes a.shape) t then a.data.getD f 0 else 0) := by
  simp only [dropAxes_eq_dropIdx]
  exact ⟨_, marginalize_ok a axes hnd hb hl, marginalize_isMarg a axes hlen hnd hb⟩

/-- The result does not depend on the order in which the axes are named. -/
theorem marginalize_perm (a : Arr α) (axes₁ axes₂ : List Nat) (hp : axes₁.Perm axes₂)
    (hnd : axes₁.Nodup) (hb : ∀ ax ∈ axes₁, ax < a.shape.length) :
    marginalize a axes₁ = marginalize a axes₂ := by
  have hnd₂ : axes₂.Nodup := hp.nodup hnd
  have hb₂ : ∀ ax ∈ axes₂, ax < a.shape.length := fun ax h => hb ax (hp.symm.subset h)
  rw [marginalize_eq a axes₁, marginalize_eq a axes₂, (firstDuplicate_eq_none_iff _).mpr hnd,
    (firstDuplicate_eq_none_iff _).mpr hnd₂, find?_ge_eq_none.mpr hb, find?_ge_eq_none.mpr hb₂, hp.length_eq,
    sortNat_eq_of_perm hp]

/-- Removing one axis first and then the others (re-indexed) equals removing them jointly. This is the single step;
    the one-at-a-time orders are chains of it and are compared on the implementation by the correspondence. -/
theorem marginalize_stepwise (a : Arr α) (x : Nat) (rest : List Nat)
    (hlen : a.data.length = size a.shape) (hnd : (x :: rest).Nodup)
    (hb : ∀ ax ∈ x :: rest, ax < a.shape.length) (hl : (x :: rest).length < a.shape.length) (hr : rest ≠ []) :
    marginalize a (x :: rest) =
      (match marginalize a [x] with
       | .ok b => marginalize b (rest.map (fun y => if y > x then y - 1 else y))
       | .error e => .error e) :=
  marginalize_cons a x rest hlen hnd hb hl

/-- Total mass is preserved. -/
theorem marginalize_mass (a b : Arr α) (axes : List Nat)
    (hlen : a.data.length = size a.shape) (h : marginalize a axes = .ok b) :
    b.data.sum = a.data.sum :=
  (marginalize_spec a b axes hlen h).mass hlen

/-- `--marginalize-keep K` removes exactly the complement of `K`, sorted. -/
theorem keep_eq_remove_complement (dims : Nat) (keep : List Nat) :
    (∀ i, i ∈ keepToRemove dims keep ↔ (i < dims ∧ i ∉ keep)) ∧ (keepToRemove dims keep).Nodup
      ∧ isSortedLe (keepToRemove dims keep) = true := by
  refine ⟨fun i => ?_, ?_, ?_⟩
  · simp [keepToRemove]
  · exact List.nodup_range.filter _
  · rw [isSortedLe_iff]
    exact (List.pairwise_lt_range.imp (fun h => Nat.le_of_lt h)).filter _

/-! ### errors: duplicate, then out-of-range, then removing every axis -/

theorem duplicate_is_error (a : Arr α) (axes : List Nat) (h : ¬ axes.Nodup) :
    ∃ d, marginalize a axes = .error (.duplicateAxis d) ∧ 2 ≤ axes.count d := by
  cases hd : firstDuplicate axes with
  | none => exact absurd ((firstDuplicate_eq_none_iff axes).mp hd) h
  | some d =>
    refine ⟨d, ?_, firstDuplicate_some_count axes d hd⟩
    rw [marginalize_eq, hd]

theorem out_of_range_is_error (a : Arr α) (axes : List Nat) (hnd : axes.Nodup)
    (h : ∃ ax ∈ axes, a.shape.length ≤ ax) :
    ∃ ax, marginalize a axes = .error (.axisOutOfBounds ax a.shape.length) ∧ ax ∈ axes ∧ a.shape.length ≤ ax := by
  cases hf : axes.find? (fun ax => decide (ax ≥ a.shape.length)) with
  | none =>
    obtain ⟨ax, hax, hle⟩ := h
    exact absurd (find?_ge_eq_none.mp hf ax hax) (Nat.not_lt_of_le hle)
  | some ax =>
    refine ⟨ax, ?_, List.mem_of_find?_eq_some hf, by simpa using List.find?_some hf⟩
    rw [marginalize_eq, (firstDuplicate_eq_none_iff axes).mpr hnd]
    simp only [hf]

theorem all_axes_is_error (a : Arr α) (axes : List Nat) (hnd : axes.Nodup)
    (hb : ∀ ax ∈ axes, ax < a.shape.length) (hl : a.shape.length ≤ axes.length) :
    marginalize a axes = .error (.tooManyAxes axes.length a.shape.length) := by
  rw [marginalize_eq, (firstDuplicate_eq_none_iff axes).mpr hnd, find?_ge_eq_none.mpr hb]
  exact if_pos hl

/-! non-vacuity: shape [2,3,4], axes [2,0] (unsorted, unequal lengths) -/
example : (marginalize (⟨List.range 24, [2, 3, 4]⟩ : Arr Nat) [2, 0]).toOption.map (fun b => (b.shape, b.data))
    = some ([3], [60, 92, 124]) := by decide +kernel

end Sfs.C04
