/-
C19 — array, axis-view and iterator API invariants.
Property theorems only (helper lemmas live in SfsModel/Lemmas). Unbounded: every shape, axis,
position and call history.
-/
import SfsModel.Model.Array
import SfsModel.Lemmas.SumAxis
namespace Sfs.C19
open Sfs

/-! ### flat position and multi-index are in bijection -/

theorem flat_unflat (s : List Nat) (i : Nat) (h : i < size s) : flat s (unflat s i) = i :=
  Sfs.flat_unflat s i h

theorem unflat_flat (s idx : List Nat) (h : InB s idx) : unflat s (flat s idx) = idx :=
  Sfs.unflat_flat s idx h

theorem unflat_inB (s : List Nat) (i : Nat) (h : i < size s) : InB s (unflat s i) :=
  Sfs.unflat_inB s i h

theorem flat_lt (s idx : List Nat) (h : InB s idx) : flat s idx < size s := Sfs.flat_lt s idx h

/-- The running-quotient loop of `index_from_flat_unchecked` computes the multi-index. -/
theorem indexFromFlat_eq (s : List Nat) (i : Nat) (h : i < size s) : indexFromFlat s i = unflat s i :=
  Sfs.indexFromFlat_eq s i h

/-- The stride dot product used by `flat_index` is the row-major position. -/
theorem dot_strides (s idx : List Nat) (h : InB s idx) : dot (strides s) idx = flat s idx :=
  Sfs.dot_strides s idx

/-! ### `get`: exactly the in-range, right-length indices return the element at their position -/

theorem get_eq {α} (a : Arr α) (idx : List Nat) (hlen : a.data.length = size a.shape) :
    a.get idx = if InB a.shape idx then a.data[flat a.shape idx]? else none := by
  unfold Arr.get
  rw [flatIndex_eq]
  by_cases hb : InB a.shape idx
  · simp only [hb, if_true, InB.length_eq hb]
  · simp only [hb, if_false, ite_self]

theorem get_isSome_iff {α} (a : Arr α) (idx : List Nat) (hlen : a.data.length = size a.shape) :
    (a.get idx).isSome ↔ InB a.shape idx := by
  rw [get_eq a idx hlen]
  by_cases hb : InB a.shape idx
  · simp [hb, hlen, Sfs.flat_lt _ _ hb]
  · simp [hb]

/-! ### `iter_indices`: each index once, row-major, then `None` forever; `len` exact -/

theorem indices_history (s : List Nat) (n : Nat) :
    (runIter (indicesNext s) n 0).1
      = (List.range n).map (fun j => if j < size s then some (unflat s j) else none) := by
  rw [indices_runIter]

theorem indices_len (s : List Nat) (n : Nat) :
    indicesLen s (iterState (indicesNext s) n 0) = size s - min n (size s) := by
  rw [indicesLen, iterState, indices_runIter]

/-! ### `get_axis`: out-of-range requests are `None` -/

theorem getAxis_none_iff {α} (a : Arr α) (axis i : Nat) :
    a.getAxis axis i = none ↔ (axis ≥ a.shape.length ∨ i ≥ a.shape.getD axis 0) := by
  rw [getAxis_eq]
  by_cases h : axis ≥ a.shape.length ∨ i ≥ a.shape.getD axis 0
  · rw [if_pos h]; exact ⟨fun _ => h, fun _ => rfl⟩
  · rw [if_neg h]; exact ⟨fun h' => (nomatch h'), fun h' => absurd h' h⟩

/-! ### axis views: exactly the elements whose `axis`-th index is `i`, row-major over the rest,
once, then `None` forever; `len` exact -/

/-- The element an axis view at `(axis, i)` must yield at step `j`. -/
def viewElem {α} (a : Arr α) (axis i j : Nat) : Option α :=
  a.data[flat a.shape (insertAt (unflat (removeAt a.shape axis) j) axis i)]?

theorem view_history {α} (a : Arr α) (axis i : Nat) (v : View α)
    (hlen : a.data.length = size a.shape) (hv : a.getAxis axis i = some v) (n : Nat) :
    (runIter v.next n (ViewIter.init v)).1
      = (List.range n).map (fun j => if j < size (removeAt a.shape axis) then viewElem a axis i j else none) := by
  obtain ⟨hax, _, rfl⟩ := getAxis_some_inv a axis i v hv
  rw [view_runIter _ (axisView_lengths a axis i hax)]
  apply List.map_congr_left
  intro j _
  by_cases hj : j < size (removeAt a.shape axis)
  · rw [if_pos hj, axisView_out a axis i j hax hj]; rfl
  · rw [if_neg hj]; unfold viewOut; exact if_neg hj

/-- Every yielded item really is an element (never an out-of-range `get`). -/
theorem viewElem_isSome {α} (a : Arr α) (axis i j : Nat)
    (hlen : a.data.length = size a.shape) (hax : axis < a.shape.length) (hi : i < a.shape.getD axis 0)
    (hj : j < size (removeAt a.shape axis)) : (viewElem a axis i j).isSome := by
  simp [viewElem, hlen, Sfs.flat_lt _ _ (insertAt_inB a.shape axis _ i hax hi (Sfs.unflat_inB _ j hj))]

theorem view_len {α} (a : Arr α) (axis i : Nat) (v : View α)
    (hlen : a.data.length = size a.shape) (hv : a.getAxis axis i = some v) (n : Nat) :
    v.len (iterState v.next n (ViewIter.init v))
      = size (removeAt a.shape axis) - min n (size (removeAt a.shape axis)) := by
  obtain ⟨hax, _, rfl⟩ := getAxis_some_inv a axis i v hv
  rw [iterState, view_runIter _ (axisView_lengths a axis i hax)]
  rfl

theorem view_toList {α} (a : Arr α) (axis i : Nat) (v : View α)
    (hlen : a.data.length = size a.shape) (hv : a.getAxis axis i = some v) :
    v.toList.map some = (List.range (size (removeAt a.shape axis))).map (viewElem a axis i) := by
  obtain ⟨hax, hi, rfl⟩ := getAxis_some_inv a axis i v hv
  exact axisView_toList a axis i hlen hax hi

/-! ### `iter_axis`: the views `i = 0 .. shape[axis]-1` once, then `None`; `len` exact, also for an
out-of-range axis -/

theorem axis_history {α} (a : Arr α) (axis n : Nat) :
    (runIter (a.axisNext axis) n 0).1
      = (List.range n).map (fun i => a.getAxis axis i) := by
  rw [axis_runIter]

theorem axis_len {α} (a : Arr α) (axis n : Nat) :
    a.axisLen axis (iterState (a.axisNext axis) n 0)
      = (if axis < a.shape.length then a.shape.getD axis 0 - min n (a.shape.getD axis 0) else 0) := by
  rw [Arr.axisLen, iterState, axis_runIter]
  by_cases hax : axis < a.shape.length
  · rw [if_pos hax, List.getD_eq_getElem?_getD, List.getElem?_eq_getElem hax]; rfl
  · rw [if_neg hax, List.getElem?_eq_none (Nat.le_of_not_lt hax)]

/-! ### summing along an axis equals adding those views -/

theorem sumAxis_eq {α} [AddCommMonoid α] (a : Arr α) (axis : Nat)
    (hlen : a.data.length = size a.shape) (hax : axis < a.shape.length) :
    (a.sumAxis axis).shape = removeAt a.shape axis ∧
    (a.sumAxis axis).data = (List.range (size (removeAt a.shape axis))).map
      (fun t => ∑ i ∈ Finset.range (a.shape.getD axis 0), (viewElem a axis i t).getD 0) :=
  ⟨rfl, sumAxis_data a axis hlen hax⟩

/-! ### non-vacuity: shape [2,1,3], axis 1 -/

example : let a : Arr Nat := ⟨[10, 11, 12, 13, 14, 15], [2, 1, 3]⟩
    a.data.length = size a.shape ∧ (a.getAxis 1 0).map (·.toList) = some [10, 11, 12, 13, 14, 15]
      ∧ (a.getAxis 2 1).map (·.toList) = some [11, 14] ∧ a.getAxis 3 0 = none ∧ a.getAxis 1 1 = none := by
  decide +kernel

end Sfs.C19
