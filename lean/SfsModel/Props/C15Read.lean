/-
C15 (reader half) — framing of header versions 1.0 / 2.0 / 3.0, Fortran order rejected, the value loop, and the twenty
(type, byte order) decoders. Property theorems only.
-/
import SfsModel.Model.Npy
import SfsModel.Lemmas.Bytes
import SfsModel.Lemmas.NpyDecode
import SfsModel.Lemmas.NpyFrame
namespace Sfs.C15
open Sfs

def sp' (n : Nat) : List Char := List.replicate n ' '

/-! ## reader: framing -/

/-- A complete file with header version `(major, minor)`, a `w`-byte little-endian header length, the dict bytes
    (already including padding and newline) and the value bytes. -/
def frame (major minor w : Nat) (dictBytes body : List Nat) : List Nat :=
  npyMagic ++ [major, minor] ++ leBytes w dictBytes.length ++ dictBytes ++ body

/-- What the reader makes of a parsed dict and a body (the part after the header): by unfolding the tail of
    `npyAfterHeader` (`Lemmas/NpyFrame.lean`). -/
def bodyResult (d : NpyDict) (body : List Nat) : Except IoErr (List Nat × List Nat) :=
  if d.fortran then .error .invalid
  else match readValues d.endian d.ty (body.length + 1) body with
    | .error e => .error e
    | .ok vals => if checkedSize d.shape = some vals.length then .ok (d.shape, vals) else .error .invalid

/-- header_len_width: version 1.x has a 2-byte header length, versions 2.x and 3.x a 4-byte one; after that all three
    are read the same way. -/
theorem header_len_width (major minor : Nat) (dictBytes body : List Nat) (d : NpyDict)
    (hascii : allAscii dictBytes = true) (hd : parseNpyDict (bytesToChars dictBytes) = some d)
    (hmaj : major = 1 ∧ dictBytes.length < 2 ^ 16 ∨ (major = 2 ∨ major = 3) ∧ dictBytes.length < 2 ^ 32) :
    readNpy (frame major minor (if major = 1 then 2 else 4) dictBytes body) = bodyResult d body := by
  have ⟨hw, hL⟩ : npyLenWidth major = some (leBytes (if major = 1 then 2 else 4) dictBytes.length).length ∧
      ofLeBytes (leBytes (if major = 1 then 2 else 4) dictBytes.length) = dictBytes.length := by
    rcases hmaj with ⟨rfl, h⟩ | ⟨rfl | rfl, h⟩ <;> exact ⟨rfl, ofLeBytes_leBytes_of_lt _ _ (by simpa using h)⟩
  have := readNpy_frame major minor _ dictBytes body hw hL
  simp only [frame, List.append_assoc, List.cons_append, List.nil_append] at this ⊢
  rw [this, npyAfterHeader, hascii, hd]
  rfl

/-- Any other major version is rejected. -/
theorem bad_version_rejected (major minor : Nat) (tail : List Nat) (h : major ≠ 1 ∧ major ≠ 2 ∧ major ≠ 3) :
    readNpy (npyMagic ++ [major, minor] ++ tail) = .error .invalid := by
  rw [List.append_assoc, List.cons_append, List.cons_append, List.nil_append, readNpy_version, npyLenWidth_none major h]

/-- fortran_rejected: Fortran-ordered files are rejected whatever else they contain. -/
theorem fortran_rejected (d : NpyDict) (body : List Nat) (h : d.fortran = true) :
    bodyResult d body = .error .invalid := by
  simp only [bodyResult, h, if_true]

/-- The value loop reads exactly `body.length / width` values, in order, each from its own `width` bytes, and rejects a
    trailing partial value. -/
theorem readValues_spec (en : Endian) (t : NpyTy) (body : List Nat) :
    readValues en t (body.length + 1) body =
      if body.length % t.width = 0 then
        .ok ((List.range (body.length / t.width)).map (fun i => decodeValue en t ((body.drop (i * t.width)).take t.width)))
      else .error .eof :=
  readValues_eq en t body (body.length + 1) (Nat.lt_succ_self _)

/-! ## reader: the 20 decoders -/

/-- Exact value of a binary32 pattern (by unfolding `f32Val` of `Lemmas/NpyDecode.lean` on the three fields). -/
def f32OfBits (b : Nat) : XR :=
  let sign : Bool := b / 2 ^ 31 % 2 == 1
  let e : Nat := b / 2 ^ 23 % 2 ^ 8
  let m : Nat := b % 2 ^ 23
  if e == 255 then (if m == 0 then .inf sign else .nan)
  else
    let mag : Rat := if e == 0 then (m : Rat) / ((2 ^ 149 : Nat) : Rat)
      else if e ≥ 150 then (((2 ^ 23 + m) * 2 ^ (e - 150) : Nat) : Rat)
      else ((2 ^ 23 + m : Nat) : Rat) / ((2 ^ (150 - e) : Nat) : Rat)
    .fin (if sign then -mag else mag)

/-- Big-endian decoding is little-endian decoding of the reversed bytes (so ten theorems cover twenty decoders). -/
theorem decode_big_eq (t : NpyTy) (bytes : List Nat) :
    decodeValue .big t bytes = decodeValue .little t bytes.reverse := by
  cases t <;> rfl

/-- f8: the pattern is transported unchanged (NaN payloads, infinities, signed zeros included). -/
theorem decode_f8 (b : Nat) (hb : b < 2 ^ 64) : decodeValue .little .f8 (leBytes 8 b) = b :=
  ofLeBytes_leBytes_of_lt 8 b hb

/-- f4: widened exactly (every binary32 value, subnormals included, is a binary64 value); NaN stays NaN. -/
theorem decode_f4 (b : Nat) (hb : b < 2 ^ 32) :
    f64OfBits (decodeValue .little .f4 (leBytes 4 b)) = f32OfBits b := by
  show f64OfBits (f64BitsOfF32Bits (ofLeBytes (leBytes 4 b))) = _
  rw [ofLeBytes_leBytes_of_lt 4 b (by simpa using hb)]
  exact f64OfBits_f64BitsOfF32Bits b

/-- The integer a `k`-byte little-endian pattern denotes as an unsigned / two's complement number. -/
theorem signedOf_spec (k n : Nat) (hk : 0 < k) (hn : n < 2 ^ (8 * k)) :
    -(2 ^ (8 * k - 1) : Int) ≤ signedOf k n ∧ signedOf k n < (2 ^ (8 * k - 1) : Int) ∧
      (signedOf k n - (n : Int)) % (2 ^ (8 * k) : Int) = 0 := by
  have hp : (2 : Nat) ^ (8 * k) = 2 * 2 ^ (8 * k - 1) := by rw [← Nat.pow_succ']; congr 1; omega
  rw [show (2 : Int) = ((2 : Nat) : Int) from rfl, ← Int.natCast_pow, ← Int.natCast_pow]
  unfold signedOf
  split
  · refine ⟨by omega, by omega, ?_⟩
    rw [Int.sub_self]; rfl
  · refine ⟨by omega, by omega, ?_⟩
    apply Int.emod_eq_zero_of_dvd
    exact ⟨-1, by omega⟩

/-- u1, u2, u4 and every u8 below 2^53: the value is exactly the unsigned integer. -/
theorem decode_unsigned_exact (n : Nat) (hn : n ≤ 2 ^ 53) : f64OfBits (f64BitsOfNat false n) = .fin (n : Rat) :=
  f64OfBits_ofNat_unsigned n hn

/-- i1, i2, i4 and every i8 of magnitude at most 2^53: the value is exactly the signed integer. -/
theorem decode_signed_exact (i : Int) (hi : i.natAbs ≤ 2 ^ 53) : f64OfBits (f64BitsOfInt i) = .fin (i : Rat) := by
  unfold f64BitsOfInt
  split
  · rw [f64OfBits_ofNat_exact true _ (by omega) hi, if_pos rfl, ← Int.cast_natCast,
      Int.ofNat_natAbs_of_nonpos (by omega), Int.cast_neg, neg_neg]
  · rw [f64OfBits_ofNat_unsigned _ hi, ← Int.cast_natCast, Int.natAbs_of_nonneg (by omega)]

/-- 64-bit integers beyond 2^53 are converted to a nearest binary64 (what numpy's `astype(float64)` and Rust's `as f64`
    do): the result is a finite value of the form `m·2^s` with `2^52 ≤ m ≤ 2^53`, within half a unit `2^s/2` of `n`. -/
theorem decode_unsigned_nearest (n : Nat) (hn : 2 ^ 53 < n) (hlt : n < 2 ^ 64) :
    ∃ m s : Nat, 2 ^ 52 ≤ m ∧ m ≤ 2 ^ 53 ∧ s = Nat.log2 n - 52 ∧
      f64OfBits (f64BitsOfNat false n) = .fin ((m * 2 ^ s : Nat) : Rat) ∧
      2 * (if m * 2 ^ s ≤ n then n - m * 2 ^ s else m * 2 ^ s - n) ≤ 2 ^ s := by
  have hn0 : n ≠ 0 := by omega
  have he : 52 < Nat.log2 n := (Nat.le_log2 hn0).mpr (by omega)
  obtain ⟨b1, b2⟩ := shiftRoundEven_mant n hn0 he
  refine ⟨shiftRoundEven n (Nat.log2 n - 52), Nat.log2 n - 52, b1, b2, rfl, ?_, ?_⟩
  · simpa using f64OfBits_ofNat_large false n hn0 he hlt
  · obtain ⟨h1, h2⟩ := roundHE_bounds n (2 ^ (Nat.log2 n - 52)) (Nat.pow_pos (by decide))
    rw [shiftRoundEven_eq_roundHE]
    split <;> omega

/-- The table: which conversion each of the ten type codes uses, and its byte width (`descr` itemsize). -/
theorem decoder_table (bytes : List Nat) :
    decodeValue .little .f8 bytes = ofLeBytes bytes ∧
    decodeValue .little .f4 bytes = f64BitsOfF32Bits (ofLeBytes bytes) ∧
    (∀ t ∈ [NpyTy.u1, .u2, .u4, .u8], decodeValue .little t bytes = f64BitsOfNat false (ofLeBytes bytes)) ∧
    (∀ t ∈ [NpyTy.i1, .i2, .i4, .i8], decodeValue .little t bytes = f64BitsOfInt (signedOf t.width (ofLeBytes bytes))) ∧
    [NpyTy.f4, .f8, .i1, .i2, .i4, .i8, .u1, .u2, .u4, .u8].map NpyTy.width = [4, 8, 1, 2, 4, 8, 1, 2, 4, 8] := by
  refine ⟨rfl, rfl, ?_, ?_, rfl⟩ <;>
  · intro t ht
    simp only [List.mem_cons, List.not_mem_nil, or_false] at ht
    rcases ht with rfl | rfl | rfl | rfl <;> rfl

/-! non-vacuity -/
/-- numpy's own spelling of a big-endian i2 header, v2.0 framing, one value `-2`. -/
example :
    (readNpy (frame 2 0 4 (asciiBytes ("{'descr': '>i2', 'fortran_order': False, 'shape': (1,), }".toList ++ sp' 5 ++ ['\n'])) [0xff, 0xfe])).toOption
      = some ([1], [0xc000000000000000]) := by
  rw [String.toList_ofList]  -- no UTF-8 decoding
  decide +kernel

end Sfs.C15
