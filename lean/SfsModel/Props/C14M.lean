/-
C14 (monomorphic entries, swapping, scaling) — the statistics other than sum and f2/f3/f4 do not depend on the two monomorphic entries;
f2, Fst, pi_xy, KING, R0, R1 are symmetric in the two populations; multiplying the spectrum by a non-zero constant leaves
f2, f3, f4, Fst, KING, R0, R1 unchanged and scales sum, S, pi, pi_xy, theta. Property theorems only.
-/
import SfsModel.Model.Stat
import SfsModel.Spec.Stat
import SfsModel.Lemmas.StatInvariance
namespace Sfs.C14
open Sfs Sfs.Spec

variable {α : Type} [Field α] [CharZero α]

/-- A well-formed spectrum: one value per cell, every population has at least one chromosome. -/
def Wf' (a : Arr α) : Prop := a.data.length = size a.shape ∧ ∀ v ∈ a.shape, 2 ≤ v

/-! ## the two monomorphic entries do not matter (except for sum, f2, f3, f4) -/

theorem mono_independent_S (a : Arr α) (h : Wf' a) (p q : α) : segregating (setMono a p q).data = segregating a.data :=
  segregating_setMono a.data p q

theorem mono_independent_pi (a : Arr α) (h : Wf' a) (p q : α) : statPi (setMono a p q).data = statPi a.data :=
  thetaEstimate_setMono _ a.data p q

theorem mono_independent_theta (a : Arr α) (h : Wf' a) (p q : α) : statTheta (setMono a p q).data = statTheta a.data :=
  thetaEstimate_setMono _ a.data p q

theorem mono_independent_tajimaD (a : Arr α) (h : Wf' a) (p q : α) :
    (dTajima (setMono a p q).data).num = (dTajima a.data).num ∧ (dTajima (setMono a p q).data).var = (dTajima a.data).var := by
  simp only [setMono, dTajima, statPi, statTheta, thetaEstimate_setMono, segregating_setMono, List.length_set, and_self]

/-- (for a one-population spectrum of at least two chromosomes the singleton class is not a monomorphic entry) -/
theorem mono_independent_fuLiD (a : Arr α) (h : Wf' a) (h3 : 3 ≤ a.data.length) (p q : α) :
    (dFuLi (setMono a p q).data).map (fun d => (d.num, d.var)) = (dFuLi a.data).map (fun d => (d.num, d.var)) := by
  have h1 : thetaFuLi ((a.data.set 0 p).set (a.data.length - 1) q) = thetaFuLi a.data := by
    simp only [thetaFuLi, List.getElem?_set]
    rw [if_neg (by omega), if_neg (by omega)]
  simp only [setMono, dFuLi, h1, statTheta, thetaEstimate_setMono, segregating_setMono, List.length_set]

theorem mono_independent_pixy (a : Arr α) (h : Wf' a) (h2 : a.shape.length = 2) (p q : α) :
    statPiXY (setMono a p q) = statPiXY a := by
  obtain ⟨r, c, hs, hl, hr, hc⟩ := exists_shape_pair a h.1 h.2 h2
  rw [statPiXY_eq_wsum a r c hs hl (by omega) (by omega),
    statPiXY_eq_wsum (setMono a p q) r c hs (by simpa [setMono] using hl) (by omega) (by omega), ← hl]
  exact congrArg (· / _) (wsum_setMono a.data p q _)

theorem mono_independent_fst (a : Arr α) (h : Wf' a) (h2 : a.shape.length = 2) (p q : α)
    (hs : sumList a.data ≠ 0) (hs' : sumList (setMono a p q).data ≠ 0) :
    statFst (normalized (setMono a p q)) = statFst (normalized a) := by
  rw [statFst_normalized _ hs, statFst_normalized _ hs', statFst, statFst, fstParts_setMono]

theorem mono_independent_king (a : Arr α) (h : Wf' a) (h33 : a.shape = [3, 3]) (p q : α) :
    statKing (setMono a p q) = statKing a ∧ statR0 (setMono a p q) = statR0 a ∧ statR1 (setMono a p q) = statR1 a :=
  kin_congr (kinParts_setMono a (by rw [h.1, h33]; rfl) p q)

/-! ## swapping the two populations -/

theorem swap_invariant_f2 (a : Arr α) (h : Wf' a) (h2 : a.shape.length = 2) :
    statF2 (normalized (swapPops a)) = statF2 (normalized a) := by
  obtain ⟨r, c, hs, hl, hr, hc⟩ := exists_shape_pair a h.1 h.2 h2
  rw [statF2, statF2, freqSum_normalized, freqSum_normalized, sumList_swap a r c hs hl, swapPops_length a r c hs, hl,
    swapPops_shape a r c hs, hs]
  refine congrArg (· / _) (wsum_swap a r c hs _ _ fun i j hi hj => ?_)
  simp only [freqs_cell c r j i hj hi, freqs_cell r c i j hi hj, nth, List.getD_cons_zero, List.getD_cons_succ]
  ring

theorem swap_invariant_fst (a : Arr α) (h : Wf' a) (h2 : a.shape.length = 2) :
    statFst (normalized (swapPops a)) = statFst (normalized a) := by
  obtain ⟨r, c, hs, hl, hr, hc⟩ := exists_shape_pair a h.1 h.2 h2
  rw [statFst, statFst, fstParts_normalized, fstParts_normalized, sumList_swap a r c hs hl,
    fstParts_swap a r c hs hl]

theorem swap_invariant_pixy (a : Arr α) (h : Wf' a) (h2 : a.shape.length = 2) : statPiXY (swapPops a) = statPiXY a := by
  obtain ⟨r, c, hs, hl, hr, hc⟩ := exists_shape_pair a h.1 h.2 h2
  rw [statPiXY_eq_wsum a r c hs hl (by omega) (by omega),
    statPiXY_eq_wsum (swapPops a) c r (swapPops_shape a r c hs) (swapPops_length a r c hs) (by omega) (by omega),
    Nat.mul_comm (c - 1) (r - 1)]
  refine congrArg (· / _) (wsum_swap a r c hs _ _ (onInterior_swap r c _ _ fun i j hi hj => ?_))
  rw [pixyW_cell c r j i hi, pixyW_cell r c i j hj, Nat.add_comm]

theorem swap_invariant_king (a : Arr α) (h : Wf' a) (h33 : a.shape = [3, 3]) :
    statKing (swapPops a) = statKing a ∧ statR0 (swapPops a) = statR0 a ∧ statR1 (swapPops a) = statR1 a :=
  kin_congr (kinParts_swap a h33)

/-! ## scaling by a non-zero constant -/

theorem scale_free (a : Arr α) (c : α) (hc : c ≠ 0) (hs : sumList a.data ≠ 0) :
    statF2 (normalized (scaleBy c a)) = statF2 (normalized a) ∧ statF3 (normalized (scaleBy c a)) = statF3 (normalized a) ∧
    statF4 (normalized (scaleBy c a)) = statF4 (normalized a) ∧ statFst (normalized (scaleBy c a)) = statFst (normalized a) ∧
    statKing (scaleBy c a) = statKing a ∧ statR0 (scaleBy c a) = statR0 a ∧ statR1 (scaleBy c a) = statR1 a := by
  rw [normalized_scaleBy c hc a]
  exact ⟨rfl, rfl, rfl, rfl, kin_scale c hc a⟩

theorem scale_linear (a : Arr α) (c : α) :
    sumList (scaleBy c a).data = c * sumList a.data ∧ segregating (scaleBy c a).data = c * segregating a.data ∧
    statPi (scaleBy c a).data = c * statPi a.data ∧ statTheta (scaleBy c a).data = c * statTheta a.data ∧
    statPiXY (scaleBy c a) = c * statPiXY a := by
  refine ⟨?_, ?_, ?_, ?_, ?_⟩
  · simp only [scaleBy, sumList_eq_wsum, List.length_map, wsum_scale]
  · simp only [scaleBy, segregating_eq_wsum, List.length_map, wsum_scale]
  · simp only [scaleBy, statPi, thetaEstimate_eq_wsum, List.length_map, wsum_scale]
  · simp only [scaleBy, statTheta, thetaEstimate_eq_wsum, List.length_map, wsum_scale]
  · unfold statPiXY
    simp only [scaleBy, List.length_map, nth, getD_map_mul, sumList_eq_sum]
    rw [← mul_div_assoc, ← List.sum_map_mul_left]
    simp only [mul_assoc]

/-! non-vacuity -/
example : statFst (α := Rat) (normalized (swapPops ⟨[5, 1, 4, 2, 8, 3, 0, 7, 6, 9, 2, 1], [4, 3]⟩)) = statFst (normalized ⟨[5, 1, 4, 2, 8, 3, 0, 7, 6, 9, 2, 1], [4, 3]⟩) ∧
    statFst (α := Rat) (normalized ⟨[5, 1, 4, 2, 8, 3, 0, 7, 6, 9, 2, 1], [4, 3]⟩) ≠ 0 := by
  decide +kernel

end Sfs.C14
