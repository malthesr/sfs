/-
C02 — create --project: hypergeometric down-sampling of every covered site.
Property theorems only. `α` is any field of characteristic zero.
-/
import SfsModel.Model.Create
import SfsModel.Spec.Create
import SfsModel.Lemmas.Contrib
import SfsModel.Lemmas.BuildSite
namespace Sfs.C02
open Sfs Sfs.Spec

variable {α : Type} [Field α] [CharZero α]

/-- site_classification: with a target of `m_j` chromosomes per population, a record with `t_j` called chromosomes
    (`a_j` of them ALT) among the selected samples is counted exactly (`t = m`), down-sampled (`t_j ≥ m_j` for all `j`),
    or contributes nothing (`t_j < m_j` for some `j`). The code's reader returns exactly this (C11.readSite_eq_spec). -/
theorem site_classification (cfg : SiteCfg) (pt : List Nat) (hp : cfg.projectTo = some pt)
    (hl : pt.length = numPops cfg.map) (gts : List GtRes)
    (hne : hasPloidyError (selected cfg.map cfg.cols gts) = false) :
    let t := calledTotals (numPops cfg.map) (selected cfg.map cfg.cols gts)
    let a := altCounts (numPops cfg.map) (selected cfg.map cfg.cols gts)
    siteSpec cfg gts =
      some (if t = pt then .standard a
            else if ∀ j, j < pt.length → pt.getD j 0 ≤ t.getD j 0 then .projected t a
            else .insufficient) :=
  siteSpec_proj cfg pt hp hl gts hne

/-- contribution_projected: a down-sampled site adds `Π_j Hypergeom(k_j; t_j, a_j, m_j)` to entry `k`. -/
theorem contribution_projected (cfg : SiteCfg) (pt t a : List Nat) (hp : cfg.projectTo = some pt) (k : List Nat)
    (hk : InB (pt.map (· + 1)) k) :
    (contribOfSite (α := α) cfg (some (.projected t a))).getD (flat (pt.map (· + 1)) k) 0 = projectValue t a pt k := by
  rw [contribOfSite_projected_getD cfg pt t a hp _ (flat_lt _ _ hk), unflat_flat _ _ hk]

/-- In the boundary case `t = m` the exact count is the same as the hypergeometric formula (which degenerates to an
    indicator), so `Standard` and `Projected` sites agree. -/
theorem exact_eq_projected (cfg : SiteCfg) (pt a : List Nat) (hp : cfg.projectTo = some pt)
    (hl : a.length = pt.length) (hle : ∀ j, j < pt.length → a.getD j 0 ≤ pt.getD j 0) :
    contribOfSite (α := α) cfg (some (.standard a)) = contribOfSite (α := α) cfg (some (.projected pt a)) :=
  contribOfSite_exact_eq_projected cfg pt a hp hl hle

/-- A record short in some population adds nothing. -/
theorem insufficient_contributes_nothing (cfg : SiteCfg) (f : Nat) :
    (contribOfSite (α := α) cfg (some .insufficient)).getD f 0 = 0 :=
  getD_replicate 0 _ _

/-- run_projected_eq_spec: the output has shape `(m_1+1, …, m_d+1)` and is the sum over records of their
    contributions. -/
theorem run_projected_eq_spec (cfg : SiteCfg) (hc : CfgOk cfg) (pt : List Nat) (hp : cfg.projectTo = some pt)
    (recs : List Rec) (hwf : ∀ r ∈ recs, RecWf cfg r) (hok : ∀ r ∈ recs, recOk cfg r = true) :
    cfg.outShape = pt.map (· + 1) ∧
    createRun (α := α) cfg false recs = .ok (sumContrib cfg recs, recs.length, (recs.filter (recSkipped cfg)).length) :=
  ⟨outShape_proj cfg pt hp, createRun_nonstrict cfg hc recs hok⟩

/-- individuals_eq_shape: `--project-individuals i` means `--project-shape 2i+1`. -/
theorem individuals_eq_shape (is : List Nat) (h : ∀ i ∈ is, i < 2 ^ 62) :
    individualsToShape is = is.map (fun i => 2 * i + 1) := by
  unfold individualsToShape
  apply List.map_congr_left
  intro i hi
  have := h i hi
  -- neither `min` saturates
  rw [Nat.min_eq_left (by omega : i * 2 ≤ 2 ^ 64 - 1), Nat.min_eq_left (by omega), Nat.mul_comm]

/-! ### builder decision logic: dimensionality, then first oversized axis, then zero -/

theorem unequal_dimensions_error (samples : Option (List (String × Pop))) (toShape : List Nat) (cols : List String)
    (cfg0 : SiteCfg) (h0 : buildSite samples none cols = .ok cfg0) (hd : (mapShape cfg0.map).length ≠ toShape.length) :
    buildSite samples (some toShape) cols =
      .error (.projection (.unequalDimensions (mapShape cfg0.map).length toShape.length)) := by
  rw [buildSite_project, h0]
  exact if_pos hd

theorem oversized_error (samples : Option (List (String × Pop))) (toShape : List Nat) (cols : List String)
    (cfg0 : SiteCfg) (h0 : buildSite samples none cols = .ok cfg0) (hd : (mapShape cfg0.map).length = toShape.length)
    (j : Nat) (hj : j < toShape.length) (hlt : (mapShape cfg0.map).getD j 0 < toShape.getD j 0)
    (hfirst : ∀ i, i < j → toShape.getD i 0 ≤ (mapShape cfg0.map).getD i 0) :
    buildSite samples (some toShape) cols =
      .error (.projection (.invalidProjection j ((mapShape cfg0.map).getD j 0) (toShape.getD j 0))) := by
  have hfs := firstSmaller_some (mapShape cfg0.map) toShape 0 j hd hj hlt hfirst
  simp only [buildSite_project, h0, if_neg (not_not.mpr hd), hfs, Nat.zero_add]

theorem zero_error (samples : Option (List (String × Pop))) (toShape : List Nat) (cols : List String)
    (cfg0 : SiteCfg) (h0 : buildSite samples none cols = .ok cfg0) (hd : (mapShape cfg0.map).length = toShape.length)
    (hle : ∀ i, i < toShape.length → toShape.getD i 0 ≤ (mapShape cfg0.map).getD i 0) (hz : 0 ∈ toShape) :
    buildSite samples (some toShape) cols = .error (.projection .zero) := by
  have hfs := (firstSmaller_none_iff (mapShape cfg0.map) toShape 0 hd).mpr hle
  simp only [buildSite_project, h0, if_neg (not_not.mpr hd), hfs, (countOfShape_none_iff toShape).mpr hz]

theorem admissible_ok (samples : Option (List (String × Pop))) (toShape : List Nat) (cols : List String)
    (cfg0 : SiteCfg) (h0 : buildSite samples none cols = .ok cfg0) (hd : (mapShape cfg0.map).length = toShape.length)
    (hle : ∀ i, i < toShape.length → toShape.getD i 0 ≤ (mapShape cfg0.map).getD i 0) (hz : 0 ∉ toShape) :
    buildSite samples (some toShape) cols = .ok ⟨cfg0.map, cfg0.cols, some (toShape.map (· - 1))⟩ := by
  have hfs := (firstSmaller_none_iff (mapShape cfg0.map) toShape 0 hd).mpr hle
  have hcs := (countOfShape_some_iff toShape _).mpr ⟨pos_iff_zero_not_mem.mpr hz, rfl⟩
  simp only [buildSite_project, h0, if_neg (not_not.mpr hd), hfs, hcs]

/-- create_then_project (C03's last law): when no selected genotype is missing or multiallelic, projecting the
    spectrum created without projection equals creating with projection. -/
theorem create_then_project (cfg : SiteCfg) (hc : CfgOk cfg) (hnp : cfg.projectTo = none)
    (toShape pt : List Nat) (hpt : countOfShape toShape = some pt)
    (hd : (mapShape cfg.map).length = toShape.length)
    (hle : ∀ i, i < toShape.length → toShape.getD i 0 ≤ (mapShape cfg.map).getD i 0)
    (recs : List Rec) (hwf : ∀ r ∈ recs, RecWf cfg r)
    (hcomplete : ∀ r ∈ recs, ∃ c p l, r = .gts c p l ∧ hasPloidyError (selected cfg.map cfg.cols l) = false ∧
        complete (selected cfg.map cfg.cols l) = true)
    (scs scs' : List α) (n k n' k' : Nat)
    (h1 : createRun (α := α) cfg false recs = .ok (scs, n, k))
    (h2 : createRun (α := α) ⟨cfg.map, cfg.cols, some pt⟩ false recs = .ok (scs', n', k')) :
    project (⟨scs, mapShape cfg.map⟩ : Arr α) toShape = .ok ⟨scs', toShape⟩ := by
  obtain ⟨hpos, rfl⟩ := (countOfShape_some_iff toShape pt).mp hpt
  have hts : (toShape.map (· - 1)).map (· + 1) = toShape := map_pred_succ toShape hpos
  have hlpt : (toShape.map (· - 1)).length = numPops cfg.map := by rw [List.length_map, ← hd, mapShape_length]
  obtain ⟨_, e1⟩ := createRun_ok_inv cfg hc.projectTo_length false recs _ h1
  obtain ⟨_, e2⟩ := createRun_ok_inv _ (fun pt' h => by cases h; exact hlpt) false recs _ h2
  cases e1; cases e2
  -- `project_eq`: weighted sums over flat positions; `sumContrib_weighted`: the weight moves to single records;
  -- `contrib_project_complete` closes each record
  have hok : ProjOk (mapShape cfg.map) toShape :=
    ⟨hd, fun v hv => by obtain ⟨j, _, rfl⟩ := List.mem_map.mp hv; omega, hpos, hle⟩
  have hlen : (sumContrib (α := α) cfg recs).length = size (mapShape cfg.map) := by rw [sumContrib_length, SiteCfg.outShape, hnp]
  -- the array is written out: from `_` Lean would have to find it through `Arr.shape ?a` in each clause of `hok`
  rw [project_eq (⟨sumContrib cfg recs, mapShape cfg.map⟩ : Arr α) toShape hlen hok,
    list_eq_map_getD 0 (sumContrib ⟨cfg.map, cfg.cols, some (toShape.map (· - 1))⟩ recs), sumContrib_length]
  simp only [SiteCfg.outShape, hts]
  refine congrArg (fun d => Except.ok (Arr.mk d toShape)) (List.map_congr_left fun t ht => ?_)
  rw [sumContrib_weighted, sumContrib_getD]
  refine congrArg List.sum (List.map_congr_left fun r hr => ?_)
  obtain ⟨c, p, l, rfl, hpe, hcomp⟩ := hcomplete r hr
  have := contrib_project_complete (α := α) cfg hc hnp (toShape.map (· - 1)) hlpt
    (fun i hi => by
      have := hle i (by simpa using hi)
      rwa [← hts, getD_map_of_lt (· + 1) _ hi 0 0] at this) l (hwf _ hr).1 (hwf _ hr).2 hpe hcomp t (by rw [hts]; exact List.mem_range.mp ht)
  -- equal to the goal up to unfolding `C03.coeff` and `recContrib (.gts …) = contrib`
  rwa [hts] at this

/-! non-vacuity: one population short, one exactly sufficient -/
example :
    let cfg : SiteCfg := ⟨[("a", 0), ("b", 1), ("c", 0)], ["a", "b", "c"], some [2, 2]⟩
    siteSpec cfg [.genotype 1, .genotype 1, .skipped .missing] = some (.standard [1, 1]) ∧
    siteSpec cfg [.genotype 1, .skipped .missing, .genotype 2] = some .insufficient ∧
    siteSpec cfg [.genotype 1, .genotype 2, .genotype 2] = some (.projected [4, 2] [3, 2]) := by decide

end Sfs.C02
