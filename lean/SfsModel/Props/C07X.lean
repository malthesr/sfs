/-
C07 (extension) — converting text to npy and back at the same precision reproduces the text whenever the printed values
have at most 15 significant digits: the nearest binary64 of a decimal `M / 10^p` with `M < 10^15` prints, at precision
`p`, as that same decimal. Property theorems only.
-/
import SfsModel.Props.C07Text
import SfsModel.Lemmas.Digits15
namespace Sfs.C07
open Sfs

/-- nearest_error: the binary64 nearest to a positive rational in the normal range is within relative error 2^-53. -/
theorem nearest_error (q : Rat) (hlo : (1 : Rat) / ((2 ^ 1022 : Nat) : Rat) ≤ q) (hhi : q < ((2 ^ 1023 : Nat) : Rat)) :
    ∃ v : Rat, f64OfBits (f64BitsOfRatNonneg q) = .fin v ∧ absRat (v - q) * ((2 ^ 53 : Nat) : Rat) ≤ q := by
  rw [natCast_two_pow 1022, one_div, ← zpow_neg] at hlo
  rw [natCast_two_pow 1023] at hhi
  obtain ⟨v, h1, h2, _⟩ := nearest_normal q hlo hhi
  exact ⟨v, h1, by rw [natCast_two_pow 53, absRat_eq_abs]; exact h2⟩

/-- fifteen_digits_print_back: a decimal with at most 15 significant digits survives decimal → binary64 → decimal at the
    same precision (`p ≤ 300` keeps `10^-p` in the normal range). -/
theorem fifteen_digits_print_back (M p : Nat) (hM : M < 10 ^ 15) (hp : p ≤ 300) :
    fmtFixed (f64BitsOfRatNonneg ((M : Rat) / ((10 ^ p : Nat) : Rat))) p = fmtRatFixed ((M : Rat) / ((10 ^ p : Nat) : Rat)) p := by
  obtain ⟨h1, h2, _⟩ := fmtFixed_nearest_decimal15 M p hM hp
  rw [h1, h2]

/-- text_npy_text: for a finite value whose printed form at precision `p` has at most 15 significant digits, re-reading
    the printed token and printing the result again at the same precision gives the same token — text → npy → text is the
    identity on such spectra (npy transports the re-read pattern unchanged: `npy_roundtrip`). -/
theorem text_npy_text (x p : Nat) (q : Rat) (hx : x < 2 ^ 64) (hf : f64OfBits x = .fin q)
    (h15 : roundedScaled (absRat q) p < 10 ^ 15) (hp : p ≤ 300) (b' : Nat) (hb : parseF64 (fmtFixed x p) = some b') :
    fmtFixed b' p = fmtFixed x p := by
  rw [text_value_roundtrip x p q hx hf] at hb
  exact fmtFixed_reparse_decimal15 x p q hf h15 hp b' (Option.some.inj hb).symm

/-! non-vacuity: 0.1 + 0.2 printed at precision 3 and 15; 1e-5 at precision 10 -/
example : (parseF64 (fmtFixed 0x3fd3333333333334 3)).map (fun b => fmtFixed b 3) = some (fmtFixed 0x3fd3333333333334 3) ∧
    (parseF64 (fmtFixed 0x3fd3333333333334 15)).map (fun b => fmtFixed b 15) = some (fmtFixed 0x3fd3333333333334 15) ∧
    fmtFixed 0x3fd3333333333334 15 = "0.300000000000000".toList := by
  rw [String.toList_ofList]  -- no UTF-8 decoding
  decide +kernel

end Sfs.C07
