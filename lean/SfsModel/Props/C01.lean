/-
C01 — create counts every complete site once at its per-population ALT index.
Property theorems only. `α` is any field of characteristic zero.
-/
import SfsModel.Model.Create
import SfsModel.Spec.Create
import SfsModel.Lemmas.BuildSite
import SfsModel.Lemmas.Contrib
namespace Sfs.C01
open Sfs Sfs.Spec

variable {α : Type} [Field α] [CharZero α]

/-- What `buildSite` returns is well formed (given distinct column names in the input header). -/
theorem buildSite_ok (samples : Option (List (String × Pop))) (project : Option (List Nat)) (cols : List String)
    (hnd : cols.Nodup) (cfg : SiteCfg) (h : buildSite samples project cols = .ok cfg) : CfgOk cfg :=
  Sfs.buildSite_ok samples project cols hnd cfg h

/-- shape_eq: without projection the output shape is `(2 n_1 + 1, …, 2 n_d + 1)`, `n_j` = number of listed
    samples of population `j`. -/
theorem shape_eq (samples : Option (List (String × Pop))) (cols : List String) (cfg : SiteCfg)
    (h : buildSite samples none cols = .ok cfg) :
    cfg.outShape = (List.range (numPops cfg.map)).map (fun j => 2 * (cfg.map.filter (fun p => p.2 = j)).length + 1) := by
  obtain ⟨l, rfl, _⟩ := buildSite_none_inv samples cols cfg h
  simp only [SiteCfg.outShape, mapShape]
  apply List.map_congr_left
  intro j _
  omega

/-- The ALT counts of a well-formed record are a valid index of the output (never the `expect` panic). -/
theorem alt_in_bounds (cfg : SiteCfg) (hc : CfgOk cfg) (hnp : cfg.projectTo = none) (gts : List GtRes)
    (hwf : RecWf cfg (.gts "" 0 gts)) :
    InB cfg.outShape (altCounts (numPops cfg.map) (selected cfg.map cfg.cols gts)) :=
  Sfs.alt_in_bounds cfg hc.cols_nodup hnp gts hwf.1 hwf.2

/-- run_eq_spec: entry `k` is exactly the number of records at which every selected sample has a complete biallelic
    genotype and population `j` carries `k_j` ALT alleles; nothing else contributes. -/
theorem run_eq_spec (cfg : SiteCfg) (hc : CfgOk cfg) (hnp : cfg.projectTo = none) (recs : List Rec)
    (hwf : ∀ r ∈ recs, RecWf cfg r) (hok : ∀ r ∈ recs, recOk cfg r = true) :
    ∃ scs, createRun (α := α) cfg false recs = .ok (scs, recs.length, (recs.filter (recSkipped cfg)).length) ∧
      scs.length = size cfg.outShape ∧
      ∀ k, InB cfg.outShape k →
        scs.getD (flat cfg.outShape k) 0 =
          (((recs.filter (fun r => match gtsOf r with
              | some l => complete (selected cfg.map cfg.cols l) ∧
                  altCounts (numPops cfg.map) (selected cfg.map cfg.cols l) = k
              | none => false)).length : Nat) : α) := by
  refine ⟨sumContrib cfg recs, createRun_nonstrict cfg hc recs hok,
    sumContrib_length cfg recs, ?_⟩
  intro k hk
  rw [sumContrib_noproj_getD cfg hc.cols_nodup hnp recs hwf hok k hk]
  rfl

/-- unselected_irrelevant: genotypes (even ploidy errors) of samples that were not selected never influence a site. -/
theorem unselected_irrelevant (cfg : SiteCfg) (gts gts' : List GtRes)
    (hl : gts.length = cfg.cols.length) (hl' : gts'.length = cfg.cols.length)
    (h : ∀ i, i < cfg.cols.length → (lookupPop cfg.map (cfg.cols.getD i "")).isSome →
          gts.getD i .ploidyError = gts'.getD i .ploidyError) :
    siteSpec cfg gts = siteSpec cfg gts' :=
  siteSpec_congr cfg gts gts' (selected_congr cfg.map cfg.cols gts gts' hl hl' h)

/-- incomplete_contributes_nothing: a record with a selected missing or multiallelic genotype adds nothing. -/
theorem incomplete_contributes_nothing (cfg : SiteCfg) (hnp : cfg.projectTo = none) (gts : List GtRes)
    (h : complete (selected cfg.map cfg.cols gts) = false) (f : Nat) :
    (contrib (α := α) cfg gts).getD f 0 = 0 := by
  unfold contrib
  rw [siteSpec_noproj cfg hnp gts, h]
  cases hasPloidyError (selected cfg.map cfg.cols gts) <;> exact getD_replicate 0 _ _

/-- The values are whole numbers: total mass is a count of records, at most the number of records. -/
theorem mass_le_records (cfg : SiteCfg) (hc : CfgOk cfg) (hnp : cfg.projectTo = none) (recs : List Rec)
    (hwf : ∀ r ∈ recs, RecWf cfg r) (hok : ∀ r ∈ recs, recOk cfg r = true) :
    ∃ scs n k, createRun (α := α) cfg false recs = .ok (scs, n, k) ∧
      scs.sum = ((recs.length - k : Nat) : α) ∧ k ≤ recs.length :=
  ⟨sumContrib cfg recs, recs.length, (recs.filter (recSkipped cfg)).length, createRun_nonstrict cfg hc recs hok,
    sumContrib_sum cfg hc recs hwf hok, List.length_filter_le _ _⟩

/-! non-vacuity: 2 populations of unequal size, 3 records, one skipped, an unselected ploidy error -/
example :
    let cfg : SiteCfg := ⟨[("a", 0), ("b", 1), ("c", 0)], ["a", "b", "c", "d"], none⟩
    createRun (α := Rat) cfg false
      [.gts "1" 1 [.genotype 1, .genotype 2, .genotype 0, .ploidyError], .gts "1" 2 [.genotype 1, .skipped .missing, .genotype 0, .genotype 0],
       .gts "1" 3 [.genotype 2, .genotype 0, .genotype 2, .genotype 0]]
      = .ok ([0, 0, 0, 0, 0, 1, 0, 0, 0, 0, 0, 0, 1, 0, 0], 3, 1) := by decide +kernel

end Sfs.C01
