/-
Source tie for constants — regenerated from the repository on every run. `SfsModel/Generated/SourceConsts.lean` is written
by `tools/extract_consts.py` from the Rust source as it is now; the theorems below state that every constant that was
located there has the value the model (and hence every theorem about the model) is built on. A changed alignment, magic
number, detection-prefix length or option default therefore breaks a proof obligation of the property it belongs to even
if no generated input happens to distinguish the two values. A constant that can no longer be located is `none` and
satisfies the statements vacuously (the check reports it as a note).
Property theorems only; one namespace per property.
-/
import SfsModel.Generated.SourceConsts
import SfsModel.Model.Npy
import SfsModel.Model.Text
import SfsModel.Model.Detect
import SfsModel.Model.Cli
namespace Sfs

/-- `o` is absent or holds `v`. -/
def Src.agrees {α} [DecidableEq α] (o : Option α) (v : α) : Bool := o.all (· == v)

/-- A constant that was located has the value it agrees with. -/
theorem Src.eq_of_agrees {α} [DecidableEq α] {o : Option α} {a v : α} (h : Src.agrees o v = true) (ho : o = some a) :
    a = v := by
  subst ho; simpa [Src.agrees] using h

namespace C15
/-- the header alignment and the magic string the writer model uses are the ones the source declares -/
theorem source_constants :
    Src.agrees Src.npyAlign 64 = true ∧ Src.agrees Src.npyMagic Sfs.npyMagic = true := by decide
/-- … and 64 is what the writer model aligns to: the padded header length is a multiple of the declared alignment -/
theorem source_alignment (a : Nat) (h : Src.npyAlign = some a) (len : Nat) : (len + (64 - len % 64)) % a = 0 := by
  cases Src.eq_of_agrees source_constants.1 h; omega
end C15

namespace C07
/-- format detection: both magic prefixes of the model are the declared ones -/
theorem source_constants :
    Src.agrees Src.textStart Sfs.textStart = true ∧ Src.agrees Src.npyMagic Sfs.npyMagic = true := by decide
end C07

namespace C12
/-- gzip and BCF magic numbers, and the length of the detection prefix -/
theorem source_constants :
    Src.agrees Src.gzipMagic Sfs.gzipMagic = true ∧ Src.agrees Src.bcfMagic Sfs.bcfMagic = true ∧
    Src.agrees Src.detectPrefixLen 65536 = true := by decide
end C12

namespace C18
/-- the read-ahead of the genotype reader is the declared number of bytes -/
theorem source_prefix_len (n : Nat) (h : Src.detectPrefixLen = some n) (r : Rd) : readPrefix r = r.readUpTo n n := by
  cases Src.eq_of_agrees C12.source_constants.2.2 h; rfl
end C18

namespace C02
/-- `--precision` defaults of `create` (used only when projecting) -/
theorem source_constants : Src.agrees Src.createPrecision ({} : CreateArgs).precision = true := by decide
end C02

end Sfs
