/-
C05 — folding is mass-preserving, idempotent and symmetric under allele polarity.
Property theorems only. `α` is any field of characteristic zero (the driver runs the same definitions at `Rat`);
`half` is instantiated by `1/2`.
-/
import SfsModel.Model.Spectrum
import SfsModel.Lemmas.Fold
namespace Sfs.C05
open Sfs

variable {α : Type} [Field α] [CharZero α]

/-- The code's running-quotient loop computes the index sum (total ALT count) of the entry. -/
theorem indexSumFromFlat_eq (shape : List Nat) (i : Nat) (h : i < size shape) :
    indexSumFromFlat shape i = (unflat shape i).sum :=
  indexSumFromFlat_eq_sum shape i h

/-- The code's flat partner `n - 1 - i` is the mirror entry (every `k_j ↦ n_j - k_j`). -/
theorem rev_is_mirror (shape : List Nat) (i : Nat) (h : i < size shape) :
    size shape - 1 - i = flat shape (mirror shape (unflat shape i)) :=
  rev_eq_flat_mirror shape i h

/-- fold_spec: with `T = Σ (len_j - 1)` the maximal total and `s` the entry's total:
    below half → itself plus mirror; on the `2s = T` diagonal → average of the pair; above → fill.
    Holds for every shape (odd sizes, length-1 axes, mixed dimensions). -/
theorem fold_spec (fill : α) (shape : List Nat) (x : List α) (hlen : x.length = size shape)
    (i : Nat) (h : i < size shape) :
    let k := unflat shape i
    let s := k.sum
    let T := shape.sum - shape.length
    let m := flat shape (mirror shape k)
    (foldSpectrum (1/2 : α) fill shape x)[i]? =
      some (if 2 * s < T then x.getD i 0 + x.getD m 0
            else if 2 * s = T then (x.getD i 0 + x.getD m 0) / 2
            else fill) := by
  intro k s T m
  rw [foldSpectrum_getElem? _ _ _ _ i h, foldCell_if, indexSumFromFlat_eq_sum shape i h,
    rev_eq_flat_mirror shape i h]

theorem fold_length (fill : α) (shape : List Nat) (x : List α) :
    (foldSpectrum (1/2 : α) fill shape x).length = size shape :=
  foldSpectrum_length _ _ _ _

/-- With fill 0 the total mass is preserved. -/
theorem fold_mass (shape : List Nat) (x : List α) (hlen : x.length = size shape) :
    (foldSpectrum (1/2 : α) 0 shape x).sum = x.sum :=
  foldSpectrum_mass shape x hlen

/-- With fill 0 folding twice equals folding once. -/
theorem fold_idem (shape : List Nat) (x : List α) (hlen : x.length = size shape) :
    foldSpectrum (1/2 : α) 0 shape (foldSpectrum (1/2 : α) 0 shape x) = foldSpectrum (1/2 : α) 0 shape x :=
  foldSpectrum_idem shape x

/-- Mirroring the input (swapping reference and alternate allele = reversing the flat data, by
    `rev_is_mirror`) does not change the folded spectrum, for every fill value. -/
theorem fold_polarity (fill : α) (shape : List Nat) (x : List α) (hlen : x.length = size shape) :
    foldSpectrum (1/2 : α) fill shape x.reverse = foldSpectrum (1/2 : α) fill shape x :=
  foldSpectrum_reverse fill shape x hlen

/-- The mirrored spectrum is the reversed data: entry at `k` of `x.reverse` is entry at `mirror k` of `x`. -/
theorem reverse_is_mirror (shape : List Nat) (x : List α) (hlen : x.length = size shape)
    (i : Nat) (h : i < size shape) :
    x.reverse[i]? = x[flat shape (mirror shape (unflat shape i))]? := by
  rw [← rev_eq_flat_mirror shape i h, List.getElem?_reverse (by omega), hlen]

/-! non-vacuity: shape [2,3,2], a non-symmetric, non-ramp vector -/
example : foldSpectrum (1/2 : Rat) 0 [2,3,2] [5,1,0,2,7,3,1,1,4,0,2,9]
    = [14, 3, 0, 3, 4, 0, 4, 4, 3, 0, 0, 0] := by decide +kernel

end Sfs.C05
