/-
C18 — results do not depend on how the byte stream is chunked; I/O errors surface.  (partial: see DESIGN §8)
Proved here, over the `std::io::{BufRead, Read, Write}` model of `Model/IoModel.lean`: sfs's own readers (npy, text,
the detection prefix) and writers (npy, text) for every chunk schedule and every failure offset.
Explored, not proved: noodles' VCF/BCF/BGZF readers under chunk schedules (`c18.*` correspondence runs).
Property theorems only.
-/
import SfsModel.Model.IoModel
import SfsModel.Model.Detect
import SfsModel.Lemmas.IoSchedule
import SfsModel.Lemmas.Detect
namespace Sfs.C18
open Sfs

/-- A reader in its initial state: nothing buffered yet; any chunk schedule. -/
def Rd.fresh (data sched : List Nat) (failAt : Option Nat) : Rd := { data := data, sched := sched, avail := 0, failAt := failAt }

/-- readExact_schedule_free: whatever the chunk schedule, `read_exact(n)` returns the next `n` bytes and leaves the
    rest, or reports EOF when fewer than `n` remain. -/
theorem readExact_schedule_free (r : Rd) (h : Rd.Ok r) (n fuel : Nat) (hfuel : n ≤ fuel) :
    (n ≤ r.data.length → ∃ r', r.readExact fuel n = .ok (r.data.take n, r') ∧ Rd.Ok r' ∧ r'.data = r.data.drop n) ∧
    (r.data.length < n → r.readExact fuel n = .error .eof) := by
  obtain ⟨h1, h2⟩ := Rd.readExact_takes fuel r h.inv n hfuel
  exact ⟨fun hn => (h1 hn).ok h, fun hn => by rw [h2 hn, if_pos h.2]⟩

/-- readLine_schedule_free: `read_line` returns the bytes up to and including the first newline (or everything). -/
theorem readLine_schedule_free (r : Rd) (h : Rd.Ok r) (fuel : Nat) (hfuel : r.data.length < fuel) :
    ∃ r', r.readLine fuel =
        .ok (r.data.takeWhile (· ≠ 10) ++ (if (r.data.takeWhile (· ≠ 10)).length < r.data.length then [10] else []), r') ∧
      Rd.Ok r' ∧ r'.data = r.data.drop ((r.data.takeWhile (· ≠ 10)).length + 1) := by
  rw [← take_line]
  exact (Rd.readLine_takes fuel r h.inv hfuel).ok h

/-- readToEnd_schedule_free: whatever the chunk schedule, `read_to_end` returns all the remaining bytes. -/
theorem readToEnd_schedule_free (r : Rd) (h : Rd.Ok r) (fuel : Nat) (hfuel : r.data.length < fuel) :
    ∃ r', r.readToEnd fuel = .ok (r.data, r') := by
  obtain ⟨r', he, _⟩ := Rd.readToEnd_schedule_free fuel r h hfuel
  exact ⟨r', he⟩

/-- readNpy_schedule_free: for every schedule of chunk lengths (down to one byte at a time, any first chunk), reading
    an npy stream gives exactly what reading the whole byte string gives — result or error. -/
theorem readNpy_schedule_free (data sched : List Nat) :
    readNpyRd (Rd.fresh data sched none) = readNpy data :=
  (readNpyRd_rel _ (Rd.Inv.fresh data sched)).eq

/-- readText_schedule_free: the same for the text reader (`read_line` + `read_to_string`). -/
theorem readText_schedule_free (data sched : List Nat) :
    readTextRd (Rd.fresh data sched none) = readText data :=
  (readTextRd_rel _ (Rd.Inv.fresh data sched)).eq

/-- detect_schedule_free (after fix 1c0411c): the bytes format/compression detection looks at are the first 64 KiB of
    the stream whatever the chunking — in particular whatever the length of the first chunk. -/
theorem detect_schedule_free (data sched : List Nat) (inflate3 : List Nat → Option (List Nat)) :
    ∃ r', readPrefix (Rd.fresh data sched none) = .ok (data.take 65536, r') ∧
      ∀ sched', ∃ r'', readPrefix (Rd.fresh data sched' none) = .ok (data.take 65536, r'') := by
  have key : ∀ s, ∃ r', readPrefix (Rd.fresh data s none) = .ok (data.take 65536, r') := fun s =>
    let ⟨r', he, _⟩ := (readPrefix_takes _ (Rd.Inv.fresh data s)).ok ⟨Nat.zero_le _, rfl⟩
    ⟨r', he⟩
  obtain ⟨r', he⟩ := key sched
  exact ⟨r', he, key⟩

/-- read_failure_surfaces (npy): if the underlying reader fails at any byte offset up to and including the end of the
    stream, the npy reader does not succeed — it never returns a spectrum built from partial data. -/
theorem read_failure_surfaces_npy (data sched : List Nat) (k : Nat) (hk : k ≤ data.length) :
    ∃ e, readNpyRd (Rd.fresh data sched (some k)) = .error e :=
  (readNpyRd_rel _ (Rd.Inv.fresh_failing data sched hk)).surfaces

/-- … and when the bytes before the failure are a prefix of a valid file, the error reported is the I/O error itself. -/
theorem read_failure_is_io_npy (data sched : List Nat) (k : Nat) (hk : k ≤ data.length) (s : List Nat × List Nat)
    (hvalid : readNpy data = .ok s) :
    readNpyRd (Rd.fresh data sched (some k)) = .error .io :=
  (readNpyRd_rel _ (Rd.Inv.fresh_failing data sched hk)).is_io hvalid

/-- read_failure_surfaces (text): if the underlying reader fails at any byte offset up to and including the end of the stream,
    the text reader does not succeed. (The header line is parsed before the rest is read: a bad header line is reported as such
    when the failure lies behind it.) -/
theorem read_failure_surfaces_text (data sched : List Nat) (k : Nat) (hk : k ≤ data.length) :
    ∃ e, readTextRd (Rd.fresh data sched (some k)) = .error e :=
  (readTextRd_rel _ (Rd.Inv.fresh_failing data sched hk)).surfaces

/-- … and when the data is a valid text spectrum, the error reported is the I/O error itself. -/
theorem read_failure_is_io_text (data sched : List Nat) (k : Nat) (hk : k ≤ data.length) (s : List Nat × List Nat)
    (hvalid : readText data = .ok s) :
    readTextRd (Rd.fresh data sched (some k)) = .error .io :=
  (readTextRd_rel _ (Rd.Inv.fresh_failing data sched hk)).is_io hvalid

/-- writeAll_schedule_free: through a writer that accepts only a few bytes per call, `write_all` delivers exactly the
    buffer. -/
theorem writeAll_schedule_free (w : Wr) (buf : List Nat) (hf : w.failAt = none) :
    ∃ w', w.writeAllOf buf = .ok w' ∧ w'.out = w.out ++ buf ∧ w'.failAt = none :=
  (w.writeAllOf_appends buf).ok hf

/-- writeNpy_schedule_free: the npy writer produces the same bytes through any short-writing writer as in one piece
    (and fails the same way when the header does not fit). -/
theorem writeNpy_schedule_free (shape bits sched : List Nat) :
    (∀ bytes, writeNpy shape bits = .ok bytes →
      ∃ w', writeNpyWr shape bits { sched := sched } = .ok w' ∧ w'.out = bytes) ∧
    (∀ e, writeNpy shape bits = .error e → writeNpyWr shape bits { sched := sched } = .error e) := by
  refine ⟨fun bytes hb => ?_, fun e he => (writeNpyWr_appends shape bits _).2 e he rfl⟩
  obtain ⟨w', he, ho, -⟩ := ((writeNpyWr_appends shape bits { sched := sched }).1 bytes hb).ok rfl
  exact ⟨w', he, ho⟩

/-- writeText_schedule_free: the text writer produces the same bytes through any short-writing writer as in one piece. -/
theorem writeText_schedule_free (shape bits sched : List Nat) (p : Nat) :
    ∃ w', writeTextWr shape bits p { sched := sched } = .ok w' ∧ w'.out = asciiBytes (writeText shape bits p) := by
  obtain ⟨w', he, ho, -⟩ := (writeTextWr_appends shape bits p { sched := sched }).ok rfl
  exact ⟨w', he, ho⟩

/-- write_failure_surfaces: a writer failing at any offset before the last byte makes the operation fail. -/
theorem write_failure_surfaces_npy (shape bits sched bytes : List Nat) (k : Nat)
    (hw : writeNpy shape bits = .ok bytes) (hk : k < bytes.length) :
    writeNpyWr shape bits { sched := sched, failAt := some k } = .error .io :=
  ((writeNpyWr_appends shape bits _).1 bytes hw).io rfl hk

/-- … the same for the text writer. -/
theorem write_failure_surfaces_text (shape bits sched : List Nat) (p k : Nat)
    (hk : k < (writeText shape bits p).length) :
    writeTextWr shape bits p { sched := sched, failAt := some k } = .error .io :=
  (writeTextWr_appends shape bits p _).io rfl (by rw [asciiBytes_length]; exact hk)

/-! non-vacuity: one byte at a time, and a first chunk of 7 bytes then 1, 2, 3 …; failure at offset 130 -/
example :
    let f := (writeNpy [2, 3] [1, 2, 3, 4, 5, 6]).toOption.getD []
    (readNpyRd (Rd.fresh f (List.replicate 300 1) none)).toOption = some ([2, 3], [1, 2, 3, 4, 5, 6]) ∧
    (readNpyRd (Rd.fresh f [7, 1, 2, 3, 50, 1] none)).toOption = some ([2, 3], [1, 2, 3, 4, 5, 6]) ∧
    (readNpyRd (Rd.fresh f [7, 1, 2, 3, 50, 1] (some 130))).toOption = none ∧
    (readNpyRd (Rd.fresh f [] (some f.length))).toOption = none := by
  decide +kernel

end Sfs.C18
