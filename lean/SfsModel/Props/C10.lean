/-
C10 — every record is counted once or reported skipped; strict mode; no partial output.
Property theorems only. `α` is any field of characteristic zero.
-/
import SfsModel.Model.Create
import SfsModel.Model.Cli
import SfsModel.Spec.Create
import SfsModel.Lemmas.Contrib
namespace Sfs.C10
open Sfs Sfs.Spec

variable {α : Type} [Field α] [CharZero α]

/-- Each counted record contributes total weight exactly one (a unit entry, or a product of hypergeometric
    distributions each summing to one). -/
theorem site_weight_one (cfg : SiteCfg) (hc : CfgOk cfg) (gts : List GtRes) (hwf : RecWf cfg (.gts "" 0 gts))
    (s : Site) (h : siteSpec cfg gts = some s) (hs : s ≠ .insufficient) :
    (contrib (α := α) cfg gts).sum = 1 :=
  contrib_sum_one cfg hc gts hwf.1 hwf.2 s h hs

/-- conservation: mass of the output + number of skipped sites = number of records read. -/
theorem conservation (cfg : SiteCfg) (hc : CfgOk cfg) (recs : List Rec) (hwf : ∀ r ∈ recs, RecWf cfg r)
    (scs : List α) (n k : Nat) (h : createRun (α := α) cfg false recs = .ok (scs, n, k)) :
    scs.sum + (k : α) = (n : α) ∧ n = recs.length ∧ k ≤ n := by
  obtain ⟨hok, hres⟩ := createRun_ok_inv cfg hc.projectTo_length false recs _ h
  cases hres
  have hle := List.length_filter_le (recSkipped cfg) recs
  refine ⟨?_, rfl, hle⟩
  rw [sumContrib_sum cfg hc recs hwf hok, ← Nat.cast_add, Nat.sub_add_cancel hle]

/-- A run fails exactly with the error of the first stopping record (naming its contig and position). -/
theorem run_error_iff (cfg : SiteCfg) (hc : CfgOk cfg) (strict : Bool) (recs : List Rec) :
    (∀ e, firstStop cfg strict recs = some e → createRun (α := α) cfg strict recs = .error e) ∧
    (firstStop cfg strict recs = none → ∃ r, createRun (α := α) cfg strict recs = .ok r) := by
  rw [createRun_eq cfg hc.projectTo_length]
  exact ⟨fun e h => by rw [h], fun h => by rw [h]; exact ⟨_, rfl⟩⟩

/-- strict_first: with `--strict` the run fails at the first record in input order that would be skipped (or at an
    earlier genotype error), and otherwise produces exactly the non-strict result, with nothing skipped. -/
theorem strict_first (cfg : SiteCfg) (hc : CfgOk cfg) (recs : List Rec) :
    createRun (α := α) cfg true recs =
      (match firstStop cfg true recs with
       | some e => .error e
       | none => createRun (α := α) cfg false recs) ∧
    (firstStop cfg true recs = none → ∀ scs n k, createRun (α := α) cfg false recs = .ok (scs, n, k) → k = 0) := by
  -- both modes have the closed form of `createRun_eq`; no stopping record in strict mode: none in the other,
  -- nothing skipped
  have key : firstStop cfg true recs = none →
      firstStop cfg false recs = none ∧ (recs.filter (recSkipped cfg)).length = 0 := fun hf => by
    obtain ⟨hok, hnoskip⟩ := (firstStop_eq_none_iff cfg true recs).mp hf
    refine ⟨(firstStop_eq_none_iff cfg false recs).mpr ⟨hok, fun h => nomatch h⟩, ?_⟩
    rw [List.length_eq_zero_iff, List.filter_eq_nil_iff]
    exact fun r hr => by simp [hnoskip rfl r hr]
  rw [createRun_eq cfg hc.projectTo_length true, createRun_eq cfg hc.projectTo_length false]
  refine ⟨?_, fun hf scs n k h => ?_⟩
  · cases hf : firstStop cfg true recs with
    | some e => rfl
    | none => rw [(key hf).1]
  · rw [(key hf).1] at h
    cases h
    exact (key hf).2

/-- all_or_nothing: the CLI writes a spectrum to stdout iff the run succeeded; a failing run exits non-zero
    with empty stdout. -/
theorem all_or_nothing (a : CreateArgs) (cols : List String) (recs : List Rec) :
    let o := createCli a cols recs
    (o.code = 0 ↔ o.stdout ≠ []) ∧ (o.code ≠ 0 → o.stdout = []) ∧ (o.code = 0 ∨ o.code = 1) := by
  simp only [createCli]
  cases hb : buildSite a.samples a.projectShape cols with
  | error e => simp
  | ok cfg =>
    cases hr : createRun (α := Rat) cfg a.strict recs with
    | error e => simp [hr]
    | ok r =>
      obtain ⟨scs, sites, skipped⟩ := r
      simp [hr, writeText_ne_nil]

/-- summary_line: the skipped/total summary is reported iff something was skipped, and carries the two counters
    of the run. -/
theorem summary_line (a : CreateArgs) (cols : List String) (recs : List Rec) (cfg : SiteCfg)
    (hb : buildSite a.samples a.projectShape cols = .ok cfg) (scs : List Rat) (n k : Nat)
    (h : createRun (α := Rat) cfg a.strict recs = .ok (scs, n, k)) :
    (createCli a cols recs).summary = (if k > 0 then some (k, n) else none) := by
  simp only [createCli, hb, h]

/-! non-vacuity: 5 records, 2 skipped -/
example :
    let cfg : SiteCfg := ⟨[("a", 0), ("b", 0)], ["a", "b"], none⟩
    (createRun (α := Rat) cfg false
      [.gts "1" 1 [.genotype 1, .genotype 2], .gts "1" 2 [.skipped .missing, .genotype 1], .gts "1" 3 [.genotype 0, .genotype 0],
       .gts "2" 1 [.genotype 2, .skipped .multiallelic], .gts "2" 5 [.genotype 1, .genotype 1]]).toOption.map (fun r => (r.1.foldl (· + ·) 0, r.2))
      = some (3, 5, 2) := by decide +kernel

end Sfs.C10
