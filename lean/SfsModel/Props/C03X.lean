/-
C03 (extension) — projection commutes with marginalization: projecting every axis and then summing some axes out
equals summing them out first and projecting the remaining axes (because each hypergeometric row sums to one).
This is the relation between `sfs view --project-shape … | sfs view -m …` and `sfs view -m … --project-shape …`.
Property theorems only.
-/
import SfsModel.Props.C03
import SfsModel.Props.C04
import SfsModel.Lemmas.ProjMarg
namespace Sfs.C03
open Sfs

variable {α : Type} [Field α] [CharZero α]

/-- project_marginalize_comm. `toShape` is the target for all axes of `a`; the marginal is projected to the entries of
    `toShape` that belong to the remaining axes. -/
theorem project_marginalize_comm (a : Arr α) (hlen : a.data.length = size a.shape) (axes toShape : List Nat)
    (p pm m mp : Arr α)
    (h1 : project a toShape = .ok p) (h2 : marginalize p axes = .ok pm)
    (h3 : marginalize a axes = .ok m) (h4 : project m (C04.dropAxes axes toShape) = .ok mp) :
    pm = mp := by
  obtain ⟨pm', e2, e4⟩ := Sfs.project_marginalize_ok a hlen axes toShape p m h1 h3
  rw [C04.dropAxes_eq_dropIdx] at h4
  exact (Except.ok.inj (h2.symm.trans e2)).trans (Except.ok.inj (e4.symm.trans h4))

/-! non-vacuity: shape 4x3x5 → project to 2x3x2, marginalize axis 1 -/
example :
    let a : Arr Rat := ⟨(List.range 60).map (fun (n : Nat) => ((n * n % 17 : Nat) : Rat)), [4, 3, 5]⟩
    ((project a [2, 3, 2]).toOption.bind (fun p => (marginalize p [1]).toOption)).map (·.data) =
    ((marginalize a [1]).toOption.bind (fun m => (project m [2, 2]).toOption)).map (·.data) ∧
    ((marginalize a [1]).toOption.bind (fun m => (project m [2, 2]).toOption)).isSome := by
  decide +kernel

end Sfs.C03
