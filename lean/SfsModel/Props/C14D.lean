/-
C14 (f2 decompositions) — for any 3- or 4-population spectrum, f3 and f4 equal the documented linear combinations of f2
values computed from its two-population marginals. Property theorems only.
-/
import SfsModel.Model.Stat
import SfsModel.Spec.Stat
import SfsModel.Lemmas.StatDecomp
namespace Sfs.C14
open Sfs Sfs.Spec

variable {α : Type} [Field α] [CharZero α]

/-- A well-formed spectrum: one value per cell, every population has at least one chromosome. -/
def WfD (a : Arr α) : Prop := a.data.length = size a.shape ∧ ∀ v ∈ a.shape, 2 ≤ v

/-- f3(A; B, C) = ½ (f2(A, B) + f2(A, C) − f2(B, C)), each f2 computed (as `sfs view -m … | sfs stat -s f2` does) on the
    normalised two-population marginal. -/
theorem f3_from_f2 (a : Arr α) (h : WfD a) (h3 : a.shape.length = 3) (hs : sumList a.data ≠ 0) :
    ∃ mAB mAC mBC, marginalize a [2] = .ok mAB ∧ marginalize a [1] = .ok mAC ∧ marginalize a [0] = .ok mBC ∧
      statF3 (normalized a) =
        (statF2 (normalized mAB) + statF2 (normalized mAC) - statF2 (normalized mBC)) / 2 := by
  -- `hs` and `h.2` are not needed (`x / 0 = 0` on both sides)
  obtain ⟨mAB, hAB, eAB⟩ := freqSum_marginalize f2w a [2] h.1 (by decide) (by rw [h3]; decide) (by rw [h3]; decide)
  obtain ⟨mAC, hAC, eAC⟩ := freqSum_marginalize f2w a [1] h.1 (by decide) (by rw [h3]; decide) (by rw [h3]; decide)
  obtain ⟨mBC, hBC, eBC⟩ := freqSum_marginalize f2w a [0] h.1 (by decide) (by rw [h3]; decide) (by rw [h3]; decide)
  refine ⟨mAB, mAC, mBC, hAB, hAC, hBC, ?_⟩
  show freqSum f3w (normalized a) = (freqSum f2w (normalized mAB) + freqSum f2w (normalized mAC)
    - freqSum f2w (normalized mBC)) / 2
  rw [eAB, eAC, eBC, freqSum_full f3w a h.1, ← add_div, ← sub_div, wsum_add, wsum_sub]
  rw [wsum_mul_left _ _ 2 _ _ fun f _ => f3w_from_f2w _ ((freqsOf_length _ _ (unflat_length _ f)).trans h3), mul_div_assoc,
    mul_div_cancel_left₀ _ (OfNat.ofNat_ne_zero 2)]

/-- f4(A, B; C, D) = ½ (f2(A, D) + f2(B, C) − f2(A, C) − f2(B, D)). -/
theorem f4_from_f2 (a : Arr α) (h : WfD a) (h4 : a.shape.length = 4) (hs : sumList a.data ≠ 0) :
    ∃ mAD mBC mAC mBD, marginalize a [1, 2] = .ok mAD ∧ marginalize a [0, 3] = .ok mBC ∧
      marginalize a [1, 3] = .ok mAC ∧ marginalize a [0, 2] = .ok mBD ∧
      statF4 (normalized a) =
        (statF2 (normalized mAD) + statF2 (normalized mBC) - statF2 (normalized mAC) - statF2 (normalized mBD)) / 2 := by
  -- `hs` and `h.2` are not needed (`x / 0 = 0` on both sides)
  obtain ⟨mAD, hAD, eAD⟩ := freqSum_marginalize f2w a [1, 2] h.1 (by decide) (by rw [h4]; decide) (by rw [h4]; decide)
  obtain ⟨mBC, hBC, eBC⟩ := freqSum_marginalize f2w a [0, 3] h.1 (by decide) (by rw [h4]; decide) (by rw [h4]; decide)
  obtain ⟨mAC, hAC, eAC⟩ := freqSum_marginalize f2w a [1, 3] h.1 (by decide) (by rw [h4]; decide) (by rw [h4]; decide)
  obtain ⟨mBD, hBD, eBD⟩ := freqSum_marginalize f2w a [0, 2] h.1 (by decide) (by rw [h4]; decide) (by rw [h4]; decide)
  refine ⟨mAD, mBC, mAC, mBD, hAD, hBC, hAC, hBD, ?_⟩
  show freqSum f4w (normalized a) = (freqSum f2w (normalized mAD) + freqSum f2w (normalized mBC)
    - freqSum f2w (normalized mAC) - freqSum f2w (normalized mBD)) / 2
  rw [eAD, eBC, eAC, eBD, freqSum_full f4w a h.1, ← add_div, ← sub_div, ← sub_div, wsum_add, wsum_sub, wsum_sub]
  rw [wsum_mul_left _ _ 2 _ _ fun f _ => f4w_from_f2w _ ((freqsOf_length _ _ (unflat_length _ f)).trans h4), mul_div_assoc,
    mul_div_cancel_left₀ _ (OfNat.ofNat_ne_zero 2)]

/-! non-vacuity -/
example : (marginalize (⟨(List.range 24).map (fun (n : Nat) => (n : Rat)), [2, 3, 4]⟩ : Arr Rat) [1]).toOption.map (·.shape) = some [2, 4] := by
  decide +kernel

end Sfs.C14
