/-
C15 (writer half) — npy output conforms to NPY 1.0 for every shape.
Property theorems only. Bytes are `Nat`s below 256; f64 values are 64-bit patterns.
-/
import SfsModel.Model.Npy
import SfsModel.Lemmas.NpyRoundtrip
namespace Sfs.C15
open Sfs

/-- writer_layout: every file the writer produces is, for every shape, magic ++ version 1.0 ++ little-endian u16 header
    length `L` ++ the Python-literal dict ++ `pad` spaces ++ newline ++ one little-endian 8-byte pattern per value in
    row-major order, where `L` counts dict, padding and the newline, and the data starts at a multiple of 64 bytes. -/
theorem writer_layout (shape bits bytes : List Nat) (hw : writeNpy shape bits = .ok bytes) :
    ∃ L pad, bytes = npyMagic ++ [1, 0] ++ leBytes 2 L ++ asciiBytes (npyDict shape) ++ List.replicate pad 32 ++ [10]
        ++ (bits.map (leBytes 8)).flatten ∧
      L = (npyDict shape).length + pad + 1 ∧ (10 + L) % 64 = 0 ∧ pad < 64 ∧ L < 65536 := by
  obtain ⟨hd, hh, rfl⟩ := (writeNpy_ok_iff shape bits bytes).mp hw
  obtain ⟨L, pad, rfl, h⟩ := npyHeader_layout shape hd hh
  exact ⟨L, pad, rfl, h⟩

/-- The data offset (everything before the values) is a multiple of 64 and the values take exactly 8 bytes each. -/
theorem writer_data_offset (shape bits bytes : List Nat) (hw : writeNpy shape bits = .ok bytes) :
    8 * bits.length ≤ bytes.length ∧ (bytes.length - 8 * bits.length) % 64 = 0 ∧
      bytes.drop (bytes.length - 8 * bits.length) = (bits.map (leBytes 8)).flatten := by
  obtain ⟨hd, hh, rfl⟩ := (writeNpy_ok_iff shape bits bytes).mp hw
  rw [List.length_append, flatten_leBytes_length, Nat.add_sub_cancel]
  exact ⟨Nat.le_add_left _ _, npyHeader_length shape hd hh, List.drop_left' rfl⟩

/-- The writer refuses (with an error, fix 1c25a8d) exactly when the padded header would not fit the v1.0 `u16` length field. -/
theorem writer_error_iff (shape bits : List Nat) :
    writeNpy shape bits = .error .invalid ↔
      65536 ≤ (npyDict shape).length + (64 - (10 + (npyDict shape).length) % 64) := by
  rw [← npyHeader_none_iff, writeNpy_error_iff]

/-- The dict the writer emits is the literal NPY 1.0 dictionary and the header grammar reads it back as
    little-endian f8, C order, the exact shape tuple. -/
theorem writer_dict_parses (shape : List Nat) (hne : shape ≠ []) (hb : ∀ v ∈ shape, v < 2 ^ 64) :
    parseNpyDict (npyDict shape) = some ⟨.little, .f8, false, shape⟩ := by
  simpa using parseNpyDict_npyDict shape [] hne hb

/-! non-vacuity -/
example : (writeNpy [1, 1, 10] (List.replicate 10 0)).toOption.map List.length = some (128 + 80) := by decide +kernel

end Sfs.C15
