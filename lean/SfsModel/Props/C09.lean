/-
C09 — axes follow first appearance of population labels; only listed samples count.
The property theorems, with the renderings of a sample list they speak of and `siteOf`.
-/
import SfsModel.Model.Create
import SfsModel.Lemmas.Samples
import SfsModel.Lemmas.SamplesParse
import SfsModel.Lemmas.Tally
namespace Sfs.C09
open Sfs

/-- Labels are numbered in order of first appearance: the result has no duplicates, the same members, and
    `idxOf` compares like the position of the first occurrence. -/
theorem distinct_first_appearance {κ} [DecidableEq κ] (l : List κ) :
    (distinctInOrder l).Nodup ∧ (∀ x, x ∈ distinctInOrder l ↔ x ∈ l) ∧
      ∀ x y, x ∈ l → y ∈ l → ((distinctInOrder l).idxOf x < (distinctInOrder l).idxOf y ↔ l.idxOf x < l.idxOf y) :=
  ⟨distinctInOrder_nodup l, fun _ => mem_distinctInOrder, idxOf_distinctInOrder_lt_iff l⟩

/-- ids_first_appearance: for a list without repeated samples, sample `s` with label `p` gets the position of `p`
    among the distinct labels in first-appearance order (unnamed is one label like any other). -/
theorem ids_first_appearance (l : List (String × Pop)) (hnd : (l.map (·.1)).Nodup) :
    sampleMap l = l.map (fun sp => (sp.1, (distinctInOrder (l.map (·.2))).idxOf sp.2)) :=
  sampleMap_of_nodup l hnd

/-- A sample listed twice counts once, the last entry deciding its population, at the position of the first. -/
theorem duplicate_sample_last_wins (pre post : List (String × Pop)) (s : String) (p : Pop)
    (hpost : s ∉ post.map (·.1)) :
    (indexMapOfList (pre ++ (s, p) :: post)).lookup s = some p ∧
    ((indexMapOfList (pre ++ (s, p) :: post)).map (·.1)) = distinctInOrder ((pre ++ (s, p) :: post).map (·.1)) := by
  refine ⟨?_, keys_indexMapOfList _⟩
  rw [lookup_indexMapOfList, List.reverse_append, List.reverse_cons, List.append_assoc, List.lookup_append,
    (lookup_eq_none_iff_not_key _ _).2 (by rwa [List.map_reverse, List.mem_reverse]), Option.none_or,
    List.singleton_append, List.lookup_cons, beq_self_eq_true]

/-- axis_len: axis `j` has length `2 * (number of listed samples with the j-th label) + 1`, and there is one axis
    per distinct label. -/
theorem axis_len (l : List (String × Pop)) (hnd : (l.map (·.1)).Nodup) :
    mapShape (sampleMap l) =
      (distinctInOrder (l.map (·.2))).map (fun p => 2 * (l.filter (fun sp => sp.2 = p)).length + 1) := by
  rw [sampleMap_mapShape, indexMapOfList_of_nodup l hnd]

/-- The site classification (counts per population, or skip, or abort). -/
def siteOf (cfg : SiteCfg) (gts : List GtRes) : Option Site :=
  (readSite cfg (SiteSt.fresh (numPops cfg.map)) gts).1

/-- column_perm_invariant: reordering the sample columns of the input (names and genotypes together) leaves every
    site unchanged — lookup is by name. -/
theorem column_perm_invariant (map : List (String × Nat)) (pt : Option (List Nat))
    (cols cols' : List String) (gts gts' : List GtRes)
    (hl : cols.length = gts.length) (hl' : cols'.length = gts'.length)
    (hp : (cols.zip gts).Perm (cols'.zip gts')) :
    siteOf ⟨map, cols, pt⟩ gts = siteOf ⟨map, cols', pt⟩ gts' := by
  -- the length hypotheses are not needed: `tally` and `List.zip` both stop at the shorter list
  have _ := hl; have _ := hl'
  exact readSite_fst_congr _ _ _ _ _ _ rfl rfl rfl (hp.filterMap _)

/-- list_reorder_invariant: two sample lists with the same (sample, label) pairs and the same first-appearance
    order of labels give the same map up to entry order, hence the same shape and the same sites. -/
theorem list_reorder_invariant (l l' : List (String × Pop)) (hnd : (l.map (·.1)).Nodup) (hp : l.Perm l')
    (ho : distinctInOrder (l.map (·.2)) = distinctInOrder (l'.map (·.2))) :
    (∀ s, lookupPop (sampleMap l) s = lookupPop (sampleMap l') s) ∧ mapShape (sampleMap l) = mapShape (sampleMap l')
      ∧ numPops (sampleMap l) = numPops (sampleMap l') :=
  have h := sampleMap_perm l l' hnd hp ho
  ⟨lookupPop_perm h (sampleMap_keys_nodup l), mapShape_perm h, numPops_perm h⟩

/-- The site only depends on the map through `lookupPop` (and the number of populations). -/
theorem site_depends_on_lookup (m m' : List (String × Nat)) (pt : Option (List Nat)) (cols : List String) (gts : List GtRes)
    (hlk : ∀ s, lookupPop m s = lookupPop m' s) (hn : numPops m = numPops m') :
    siteOf ⟨m, cols, pt⟩ gts = siteOf ⟨m', cols, pt⟩ gts := by
  refine readSite_fst_congr _ _ _ _ _ _ rfl ?_ ?_ ?_
  · simp [SiteSt.fresh, hn]
  · simp [SiteSt.fresh, hn]
  · simp only [Spec.selected, hlk]; exact .refl _

/-- One item of `--samples`: `SAMPLE` or `SAMPLE=POPULATION`. -/
def renderArgItem (sp : List Char × Option (List Char)) : List Char :=
  match sp.2 with
  | some p => sp.1 ++ '=' :: p
  | none => sp.1

def renderFileItem (sp : List Char × Option (List Char)) : List Char :=
  match sp.2 with
  | some p => sp.1 ++ '\t' :: p
  | none => sp.1

def asEntry (sp : List Char × Option (List Char)) : String × Pop :=
  (String.ofList sp.1, match sp.2 with | some p => .named (String.ofList p) | none => .unnamed)

def clean (l : List Char) : Prop := ',' ∉ l ∧ '=' ∉ l ∧ '\t' ∉ l ∧ '\n' ∉ l

theorem arg_item (sp : List Char × Option (List Char)) (h1 : clean sp.1) (h2 : ∀ p, sp.2 = some p → clean p) :
    parseSampleArg (renderArgItem sp) = asEntry sp ∧ parseSampleLine (renderFileItem sp) = asEntry sp := by
  obtain ⟨k, o⟩ := sp
  cases o with
  | none =>
    exact ⟨parseSampleArg_unnamed k h1.2.1, parseSampleLine_unnamed k h1.2.2.1⟩
  | some p =>
    exact ⟨parseSampleArg_named k p h1.2.1, parseSampleLine_named k p h1.2.2.1⟩

private theorem not_mem_render (c : Char) (sp : List Char × Option (List Char)) (h1 : c ∉ sp.1)
    (h2 : ∀ p, sp.2 = some p → c ∉ p) :
    (c ≠ '=' → c ∉ renderArgItem sp) ∧ (c ≠ '\t' → c ∉ renderFileItem sp) := by
  obtain ⟨k, _ | p⟩ := sp
  · exact ⟨fun _ => h1, fun _ => h1⟩
  · have := h2 p rfl
    simp_all [renderArgItem, renderFileItem]

/-- what the hypotheses of the two theorems below say about the rendered file items -/
private theorem file_items (L : List (List Char × Option (List Char))) (hne : L ≠ [])
    (h1 : ∀ sp ∈ L, clean sp.1 ∧ sp.1 ≠ []) (h2 : ∀ sp ∈ L, ∀ p, sp.2 = some p → clean p) :
    (L.map renderFileItem).map parseSampleLine = L.map asEntry ∧ L.map renderFileItem ≠ [] ∧
    (∀ t ∈ L.map renderFileItem, '\n' ∉ t) ∧ ∀ t ∈ L.map renderFileItem, t ≠ [] := by
  refine ⟨?_, by simpa using hne, ?_, fun t ht => ?_⟩
  · rw [List.map_map]
    exact List.map_congr_left fun sp h => (arg_item sp (h1 sp h).1 (h2 sp h)).2
  · simp only [List.mem_map, forall_exists_index, and_imp, forall_apply_eq_imp_iff₂]
    exact fun sp h => (not_mem_render _ sp (h1 sp h).1.2.2.2 (fun p hp => (h2 sp h p hp).2.2.2)).2 (by decide)
  · obtain ⟨⟨k, o⟩, h, rfl⟩ := List.mem_map.1 ht
    cases o <;> simp [renderFileItem, (h1 _ h).2]

/-- samples_arg_eq_file: for names and labels free of `,` `=` tab and newline the two spellings denote the same list. -/
theorem samples_arg_eq_file (L : List (List Char × Option (List Char))) (hne : L ≠ [])
    (h1 : ∀ sp ∈ L, clean sp.1 ∧ sp.1 ≠ []) (h2 : ∀ sp ∈ L, ∀ p, sp.2 = some p → clean p)
    (h3 : ∀ sp ∈ L, (renderFileItem sp).getLast? ≠ some '\r') :
    parseSamplesArg (List.intercalate [','] (L.map renderArgItem)) = L.map asEntry ∧
    parseSamplesFile (List.intercalate ['\n'] (L.map renderFileItem) ++ ['\n']) = L.map asEntry ∧
    parseSamplesFile (List.intercalate ['\n'] (L.map renderFileItem)) = L.map asEntry := by
  obtain ⟨hF, hLne, hnl, hlast⟩ := file_items L hne h1 h2
  -- in the shape the two lemmas take, with line ending `e = []` before the `\n`
  have hs : ∀ t ∈ L.map renderFileItem, stripCr (t ++ []) = t := by
    simp only [List.mem_map, forall_exists_index, and_imp, forall_apply_eq_imp_iff₂, List.append_nil]
    exact fun sp h => stripCr_of_not_cr _ (h3 sp h)
  refine ⟨?_, hF ▸ parseSamplesFile_terminated [] (by simp) _ hLne hnl hs,
    hF ▸ parseSamplesFile_unterminated [] (by simp) _ hLne hnl hs (hlast _ (List.getLast_mem _))⟩
  rw [parseSamplesArg, splitAll_intercalate _ _ (by simpa using hne), List.map_map]
  · exact List.map_congr_left fun sp h => (arg_item sp (h1 sp h).1 (h2 sp h)).1
  · simp only [List.mem_map, forall_exists_index, and_imp, forall_apply_eq_imp_iff₂]
    exact fun sp h => (not_mem_render _ sp (h1 sp h).1.1 (fun p hp => (h2 sp h p hp).1)).1 (by decide)

/-- The same file with Windows line endings (`\r\n` after every line, the last one included or not) gives the same map:
    `str::lines` drops the carriage return together with the line feed. -/
theorem samples_file_crlf (L : List (List Char × Option (List Char))) (hne : L ≠ [])
    (h1 : ∀ sp ∈ L, clean sp.1 ∧ sp.1 ≠ []) (h2 : ∀ sp ∈ L, ∀ p, sp.2 = some p → clean p)
    (h3 : ∀ sp ∈ L, (renderFileItem sp).getLast? ≠ some '\r') :
    parseSamplesFile (List.intercalate ['\r', '\n'] (L.map renderFileItem) ++ ['\r', '\n']) = L.map asEntry ∧
    parseSamplesFile (List.intercalate ['\r', '\n'] (L.map renderFileItem)) = L.map asEntry := by
  -- `h3` is not needed: every carriage return that `stripCr` removes was put there by the line ending
  have _ := h3
  obtain ⟨hF, hLne, hnl, hlast⟩ := file_items L hne h1 h2
  exact ⟨hF ▸ parseSamplesFile_terminated ['\r'] (by simp) _ hLne hnl (fun t _ => stripCr_append_cr t),
    hF ▸ parseSamplesFile_unterminated ['\r'] (by simp) _ hLne hnl (fun t _ => stripCr_append_cr t)
      (hlast _ (List.getLast_mem _))⟩

example : parseSamplesFile "a\tX\r\nb\r\nc\tY".toList = [("a", .named "X"), ("b", .unnamed), ("c", .named "Y")] ∧
    parseSamplesFile "a\tX\r\n".toList = [("a", .named "X")] ∧ parseSamplesFile "a\tX\r".toList = [("a", .named "X\r")] := by
  rw [String.toList_ofList, String.toList_ofList, String.toList_ofList]  -- the literals as character lists: no UTF-8 decoding in the kernel
  decide +kernel

/-- unknown_or_empty_is_error, first half: an empty sample list is refused. -/
theorem empty_list_is_error (project : Option (List Nat)) (cols : List String) :
    buildSite (some []) project cols = .error .emptySamplesMap := by
  rfl

/-- unknown_or_empty_is_error, second half: a listed sample that is no column of the input is refused, by name. -/
theorem unknown_sample_is_error (l : List (String × Pop)) (project : Option (List Nat)) (cols : List String)
    (h : ∃ sp ∈ l, sp.1 ∉ cols) :
    ∃ s, buildSite (some l) project cols = .error (.unknownSample s) ∧ s ∉ cols ∧ s ∈ l.map (·.1) := by
  obtain ⟨sp, hsp, hnc⟩ := h
  have hkeys : ∀ s, s ∈ (sampleMap l).map (·.1) ↔ s ∈ l.map (·.1) := fun s => by
    rw [sampleMap_keys, mem_distinctInOrder]
  -- the map has an entry for `sp.1`, so the search for a name outside the columns finds something
  obtain ⟨q, hq, hq1⟩ := List.mem_map.1 ((hkeys sp.1).2 (List.mem_map_of_mem hsp))
  obtain ⟨r, hf⟩ := Option.isSome_iff_exists.1
    (List.find?_isSome.2 ⟨q, hq, by simp [hq1, hnc]⟩ : ((sampleMap l).find? (fun p => !cols.contains p.1)).isSome)
  have hne : (sampleMap l).isEmpty = false := List.isEmpty_eq_false_iff.2 (List.ne_nil_of_mem hq)
  refine ⟨r.1, by simp only [buildSite, hne, hf]; simp, by simpa using List.find?_some hf,
    (hkeys _).1 (List.mem_map_of_mem (List.mem_of_find?_eq_some hf))⟩

/-! non-vacuity: list `s0=B,s1,s4=A,s2=B` -/
example : sampleMap [("s0", .named "B"), ("s1", .unnamed), ("s4", .named "A"), ("s2", .named "B")]
      = [("s0", 0), ("s1", 1), ("s4", 2), ("s2", 0)] ∧
    mapShape (sampleMap [("s0", .named "B"), ("s1", .unnamed), ("s4", .named "A"), ("s2", .named "B")]) = [5, 3, 3] := by
  decide +kernel

end Sfs.C09
