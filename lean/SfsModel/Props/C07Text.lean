/-
C07 (text half) — spectrum files round-trip through the plain text format; the tool reads what it writes.
Property theorems only.
-/
import SfsModel.Props.C07Npy
import SfsModel.Lemmas.TextValue
namespace Sfs.C07
open Sfs

/-- text_header_roundtrip: the header line the writer prints (`#SHAPE=<a/b/c>`) is read back as the same shape. -/
theorem text_header_roundtrip (shape : List Nat) (hne : shape ≠ []) (hb : ∀ v ∈ shape, v < 2 ^ 64) :
    parseTextHeader (textHeader shape) = some shape :=
  parseTextHeader_textHeader shape hne hb

/-- A printed value never contains whitespace and is never empty, so … -/
theorem fmtFixed_token (b p : Nat) : fmtFixed b p ≠ [] ∧ ∀ c ∈ fmtFixed b p, isAsciiWs c = false :=
  fmtFixed_tok b p

/-- text_shape_tokens: … the reader splits the value line back into exactly one token per entry, in order. -/
theorem text_shape_tokens (shape bits : List Nat) (p : Nat) :
    ∃ line : List Char, writeText shape bits p = textHeader shape ++ ['\n'] ++ line ++ ['\n'] ∧
      splitWs (line ++ ['\n']) = bits.map (fun b => fmtFixed b p) :=
  writeText_tokens shape bits p

/-- The number `fmtRatFixed` prints: `m / 10^p` with `m` the half-even rounding of `q·10^p`
    (by unfolding `roundHE (q.num.natAbs * 10^p) q.den` of `Lemmas/RoundHE.lean`, which the proofs below use). -/
def roundedScaled (q : Rat) (p : Nat) : Nat :=
  let scaled := q.num.natAbs * 10 ^ p
  let qf := scaled / q.den
  let r := scaled % q.den
  if 2 * r > q.den then qf + 1 else if 2 * r < q.den then qf else (if qf % 2 = 1 then qf + 1 else qf)

/-- fmtFixed_error: the printed decimal is within half a unit of the p-th decimal of the exact value. -/
theorem fmtFixed_error (q : Rat) (hq : 0 ≤ q) (p : Nat) :
    absRat ((roundedScaled q p : Rat) / ((10 ^ p : Nat) : Rat) - q) ≤ 1 / (2 * ((10 ^ p : Nat) : Rat)) := by
  have hT : (0 : Rat) < ((10 ^ p : Nat) : Rat) := by exact_mod_cast Nat.pow_pos (by decide)
  have := roundHE_near q.den_pos (natAbs_mul_div_den q hq (10 ^ p))
  rw [absRat_eq_abs, ← div_div, le_div_iff₀ hT, ← abs_of_pos hT, ← abs_mul, abs_of_pos hT, sub_mul,
    div_mul_cancel₀ _ hT.ne']
  exact this

/-- … and the printed characters spell exactly that number in the grammar the reader parses. -/
theorem fmtRatFixed_parses (q : Rat) (hq : 0 ≤ q) (p : Nat) :
    ∃ ip fp, splitDecimal (fmtRatFixed q p) = some (ip, fp, 0) ∧ fp.length = p ∧
      digitsVal (ip ++ fp) = roundedScaled q p := by
  have _ := hq
  exact splitDecimal_fmtScaled (roundedScaled q p) p

/-- text_value_roundtrip: re-reading a printed finite value yields the binary64 nearest to the printed decimal
    (sign kept), hence within `½·10^-p` (print) plus the rounding of the reader of the original. -/
theorem text_value_roundtrip (b p : Nat) (q : Rat) (hb : b < 2 ^ 64) (hf : f64OfBits b = .fin q) :
    parseF64 (fmtFixed b p) =
      some ((if f64Sign b then 2 ^ 63 else 0) +
        f64BitsOfRatNonneg ((roundedScaled (absRat q) p : Rat) / ((10 ^ p : Nat) : Rat))) := by
  have _ := hb
  exact parseF64_fmtFixed_fin b p q hf

/-- Special values survive the text format as classes. -/
theorem text_special_roundtrip (b p : Nat) :
    (f64OfBits b = .nan → ∃ b', parseF64 (fmtFixed b p) = some b' ∧ f64OfBits b' = .nan) ∧
    (∀ s, f64OfBits b = .inf s → ∃ b', parseF64 (fmtFixed b p) = some b' ∧ f64OfBits b' = .inf s) := by
  constructor
  · intro h
    rw [fmtFixed_nan b p h]
    exact ⟨_, parseF64_NaN, f64OfBits_qnan⟩
  · intro s h
    rw [fmtFixed_inf b p s h]
    cases s
    · exact ⟨_, parseF64_inf, f64OfBits_pinf⟩
    · exact ⟨_, parseF64_neg_inf, f64OfBits_ninf⟩

/-- The literal reading "the re-read double is within half a unit" is unattainable by any correct reader:
    at x = 0.75, p = 1 the printed "0.8" is not a double and the nearest double exceeds the bound. -/
theorem literal_bound_witness :
    fmtFixed 0x3fe8000000000000 1 = "0.8".toList ∧ parseF64 "0.8".toList = some 0x3fe999999999999a ∧
    (match f64OfBits 0x3fe999999999999a with
     | .fin y => decide (y - 3 / 4 > 1 / 20)
     | _ => false) = true := by
  decide +kernel

theorem detect_text (shape bits : List Nat) (p : Nat) :
    detectFormat (asciiBytes (writeText shape bits p)) = some .text := by
  unfold writeText textHeader
  simp only [List.append_assoc]
  exact detectFormat_text _

/-- The tool reads what it writes (text): same shape, every value re-read from its printed token. -/
theorem reads_what_it_writes_text (shape bits : List Nat) (p : Nat) (hwf : WfSpectrum shape bits) :
    ∃ bits', readSpectrum (asciiBytes (writeText shape bits p)) = .ok (shape, bits') ∧
      bits'.map some = bits.map (fun b => parseF64 (fmtFixed b p)) := by
  obtain ⟨hne, hb, hcs, _⟩ := hwf
  obtain ⟨bits', hr, hm⟩ := readText_writeText shape bits p hne hb hcs
  refine ⟨bits', ?_, hm⟩
  unfold readSpectrum
  rw [detect_text shape bits p]
  exact hr

end Sfs.C07
