/-
C07 (npy half) — spectrum files round-trip through npy; the tool reads what it writes.
Property theorems only. Values are binary64 bit patterns (`Nat` below 2^64): bit-identical means equal patterns.
-/
import SfsModel.Model.Text
import SfsModel.Lemmas.NpyRoundtrip
namespace Sfs.C07
open Sfs

/-- A spectrum as the writer sees it: non-empty shape, one pattern per element, where the element count is the
    *checked* product — exactly the `Array::new` invariant (`Arr.new?`) every constructible spectrum satisfies
    (the product of the non-zero lengths fits 64 bits; see `checkedSize`). The plain `size shape < 2^64 ∧
    bits.length = size shape` formulation is too weak: for shape `[2^63, 2^63, 0]`, `bits = []` the product is 0
    but `checked_elements` rejects it, so both readers reject what the writers would emit. -/
def WfSpectrum (shape bits : List Nat) : Prop :=
  shape ≠ [] ∧ (∀ v ∈ shape, v < 2 ^ 64) ∧ checkedSize shape = some bits.length ∧ ∀ b ∈ bits, b < 2 ^ 64

/-- npy_roundtrip: writing any spectrum and reading it back returns the same shape and bit-identical values
    (NaN payloads, infinities, signed zeros, subnormals included). -/
theorem npy_roundtrip (shape bits bytes : List Nat) (hwf : WfSpectrum shape bits)
    (hw : writeNpy shape bits = .ok bytes) : readNpy bytes = .ok (shape, bits) := by
  obtain ⟨hne, hb, hsz, hbits⟩ := hwf
  obtain ⟨hd, hh, rfl⟩ := (writeNpy_ok_iff shape bits bytes).mp hw
  rw [readNpy_written shape hd hh hne hb,
    readValues_le_f8_flatten bits _ hbits (by rw [flatten_leBytes_length]; omega)]
  simp only [hsz, if_true]

/-- The npy writer succeeds whenever the header dictionary fits the v1.0 length field. -/
theorem writeNpy_ok (shape bits : List Nat) (h : (npyDict shape).length + 64 < 65536) :
    ∃ bytes, writeNpy shape bits = .ok bytes := by
  obtain ⟨hd, hh⟩ := npyHeader_eq_some shape h
  exact ⟨_, (writeNpy_ok_iff shape bits _).mpr ⟨hd, hh, rfl⟩⟩

/-- detect_exclusive: what either writer emits is detected as exactly that format. -/
theorem detect_npy (shape bits bytes : List Nat) (hw : writeNpy shape bits = .ok bytes) :
    detectFormat bytes = some .npy := by
  obtain ⟨t, rfl⟩ := writeNpy_magic shape bits bytes hw
  exact detectFormat_npyMagic t

/-- The tool reads what it writes (npy): auto-detection + reader return the spectrum written. -/
theorem reads_what_it_writes_npy (shape bits bytes : List Nat) (hwf : WfSpectrum shape bits)
    (hw : writeNpy shape bits = .ok bytes) : readSpectrum bytes = .ok (shape, bits) := by
  simp only [readSpectrum, detect_npy shape bits bytes hw, npy_roundtrip shape bits bytes hwf hw]

/-! non-vacuity: shape [2,1,3] with NaN, -0.0, a subnormal, 1e308, -inf -/
example : (readNpy ((writeNpy [2, 1, 3] [0x7ff8000000000001, 0x8000000000000000, 1, 0x7fe1ccf385ebc8a0, 0xfff0000000000000, 0x3ff0000000000000]).toOption.getD [])).toOption
    = some ([2, 1, 3], [0x7ff8000000000001, 0x8000000000000000, 1, 0x7fe1ccf385ebc8a0, 0xfff0000000000000, 0x3ff0000000000000]) := by
  decide +kernel

end Sfs.C07
