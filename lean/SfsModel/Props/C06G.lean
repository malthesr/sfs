/-
C06 (genotype level) — the statistics computed from the spectrum that `create` produces equal the same quantities
computed directly from the genotypes of the call set. Property theorems only. `α` is any field of characteristic zero.
-/
import SfsModel.Model.Stat
import SfsModel.Spec.Stat
import SfsModel.Lemmas.Create
import SfsModel.Lemmas.StatGeno
import SfsModel.Lemmas.StatSites
namespace Sfs.C06
open Sfs Sfs.Spec

variable {α : Type} [Field α] [CharZero α]

/-- create_is_spectrum: without projection, what `create` outputs is the spectrum of the complete sites of the call
    set (what `C01.run_eq_spec` says of each cell). -/
theorem create_is_spectrum (cfg : SiteCfg) (hc : CfgOk cfg) (hnp : cfg.projectTo = none) (recs : List Rec)
    (hwf : ∀ r ∈ recs, RecWf cfg r) (hok : ∀ r ∈ recs, recOk cfg r = true) :
    ∃ scs sites skipped, createRun (α := α) cfg false recs = .ok (scs, sites, skipped) ∧
      IsSpectrumOf cfg.outShape (sitesOf cfg recs) scs :=
  ⟨_, _, _, createRun_nonstrict cfg hc recs hok, sumContrib_isSpectrumOf cfg hc hnp recs hwf hok⟩

/-- linear_stat (key lemma): any statistic that is a weighted sum over the cells of the spectrum is the sum of the
    weight over the sites. -/
theorem linear_stat (shape : List Nat) (hpos : ∀ v ∈ shape, 0 < v) (ks : List (List Nat)) (x : List α)
    (h : IsSpectrumOf shape ks x) (w : List Nat → α) :
    ((List.range (size shape)).map (fun i => x.getD i 0 * w (indexFromFlat shape i))).sum = (ks.map w).sum := by
  have e := wsum_spectrum shape ks x h (fun i => w (unflat shape i))
  rw [sf_wsum, ← list_range_sum] at e
  refine (congrArg List.sum (List.map_congr_left fun i hi => ?_)).trans
    (e.trans (congrArg List.sum (List.map_congr_left fun k hk => ?_)))
  · rw [indexFromFlat_eq _ _ (List.mem_range.mp hi)]
  · rw [unflat_flat _ _ (h.inB hk)]

/-- sum = the number of sites. -/
theorem sum_def (ns : List Nat) (ks : List (List Nat)) (x : List α) (h : IsSpectrumOf (shapeOf ns) ks x) :
    sumList x = gSum ks :=
  sumList_spectrum _ ks x h

/-- S = the number of sites that are polymorphic in the sample. -/
theorem S_def (ns : List Nat) (hne : ns ≠ []) (hns : ∀ n ∈ ns, 0 < n) (ks : List (List Nat)) (x : List α)
    (h : IsSpectrumOf (shapeOf ns) ks x) :
    segregating x = gS ns ks := by
  rw [segregating_eq_wsum, h.length, wsum_int_spectrum ns ks x h, gS, sum_map_one]

/-- A site with `k` ALT alleles among `n` chromosomes has `k (n - k)` differing pairs of chromosomes … -/
theorem diffPairs_eq (c : List Bool) : diffPairs c = altCount c * (c.length - altCount c) := by
  rw [diffPairs_eq_alt_mul_ref, ← altCount_add_ref c, Nat.add_sub_cancel_left]

/-- … and between two populations `k1 (n2 - k2) + k2 (n1 - k1)` differing pairs. -/
theorem diffBetween_eq (c d : List Bool) :
    diffBetween c d = altCount c * (d.length - altCount d) + altCount d * (c.length - altCount c) := by
  rw [diffBetween_eq_alt_mul_ref, ← altCount_add_ref c, ← altCount_add_ref d, Nat.add_sub_cancel_left, Nat.add_sub_cancel_left]

/-- pi = mean number of pairwise differences between the sampled chromosomes. -/
theorem pi_def (n : Nat) (ks : List (List Nat)) (x : List α) (h : IsSpectrumOf [n + 1] ks x) :
    statPi x = gPi n (ks.map (fun k => k.getD 0 0)) := by
  rw [statPi, thetaEstimate_eq_wsum, h.length, wsum_spectrum _ ks x h, gPi, sumOver, sumList_eq_sum, List.map_map,
    ← sum_map_div, size_single, Nat.add_sub_cancel]
  refine congrArg List.sum (List.map_congr_left fun k hk => ?_)
  match k, h.inB hk with
  | [k0], hb =>
    -- `k (n - k)` vanishes at the two monomorphic classes, so the interior weight is the weight
    have h0 : tajimaWeight (α := α) 0 n = 0 := by rw [tajimaWeight, Nat.zero_mul, Nat.cast_zero, zero_div]
    have hl : tajimaWeight (α := α) (n + 1 - 1) n = 0 := by
      rw [tajimaWeight, Nat.add_sub_cancel, Nat.sub_self, Nat.mul_zero, Nat.cast_zero, zero_div]
    rw [flat_single, onInterior_eq_self (n + 1) (fun i => tajimaWeight i n) h0 hl _ hb.1, tajimaWeight, binom2_eq]
    rfl

/-- pi_xy = mean number of differences between a chromosome of population 1 and one of population 2. -/
theorem pixy_def (n1 n2 : Nat) (ks : List (List Nat)) (x : List α) (h : IsSpectrumOf [n1 + 1, n2 + 1] ks x) :
    statPiXY ⟨x, [n1 + 1, n2 + 1]⟩ = gPiXY n1 n2 ks := by
  have hs := size_pair (n1 + 1) (n2 + 1)
  have h1 : 0 < n1 + 1 := Nat.succ_pos n1
  have h2 : 0 < n2 + 1 := Nat.succ_pos n2
  rw [statPiXY_eq_wsum ⟨x, _⟩ (n1 + 1) (n2 + 1) rfl (h.length.trans hs) h1 h2, ← hs, wsum_spectrum _ ks x h, gPiXY, sumOver,
    sumList_eq_sum, hs]
  refine congrArg (fun l : List α => l.sum / _) (List.map_congr_left fun k hk => ?_)
  rw [onInterior_eq_self _ _ (pixyW_zero _ _) (pixyW_last _ _ (Nat.mul_pos h1 h2)) _ (hs ▸ flat_lt _ _ (h.inB hk))]
  match k, h.inB hk with
  | [i, j], hb =>
    rw [flat_pair, pixyW_cell _ _ i j hb.2.1]
    simp only [Nat.add_sub_cancel, List.getD_cons_zero, List.getD_cons_succ]

/-- f2 / f3 / f4 (computed on the normalised spectrum, as `sfs stat` does) = site averages of products of sample
    allele-frequency differences. -/
theorem f2_def (ns : List Nat) (h2 : ns.length = 2) (hns : ∀ n ∈ ns, 0 < n) (ks : List (List Nat)) (hks : ks ≠ [])
    (x : List α) (h : IsSpectrumOf (shapeOf ns) ks x) :
    statF2 (normalized ⟨x, shapeOf ns⟩) = gF2 ns ks :=
  freqSum_spectrum ns ks x h (fun p => (p 0 - p 1) * (p 0 - p 1))

theorem f3_def (ns : List Nat) (h3 : ns.length = 3) (hns : ∀ n ∈ ns, 0 < n) (ks : List (List Nat)) (hks : ks ≠ [])
    (x : List α) (h : IsSpectrumOf (shapeOf ns) ks x) :
    statF3 (normalized ⟨x, shapeOf ns⟩) = gF3 ns ks :=
  freqSum_spectrum ns ks x h (fun p => (p 0 - p 1) * (p 0 - p 2))

theorem f4_def (ns : List Nat) (h4 : ns.length = 4) (hns : ∀ n ∈ ns, 0 < n) (ks : List (List Nat)) (hks : ks ≠ [])
    (x : List α) (h : IsSpectrumOf (shapeOf ns) ks x) :
    statF4 (normalized ⟨x, shapeOf ns⟩) = gF4 ns ks :=
  freqSum_spectrum ns ks x h (fun p => (p 0 - p 1) * (p 2 - p 3))

/-- Hudson's Fst = ratio of the summed per-site numerators and denominators over the polymorphic sites. -/
theorem fst_def (ns : List Nat) (h2 : ns.length = 2) (hns : ∀ n ∈ ns, 0 < n) (ks : List (List Nat)) (hks : ks ≠ [])
    (x : List α) (h : IsSpectrumOf (shapeOf ns) ks x) :
    statFst (normalized ⟨x, shapeOf ns⟩) = gFst ns ks := by
  have hne : sumList x ≠ 0 := by
    rw [sumList_spectrum _ ks x h, gSum, Nat.cast_ne_zero]
    exact fun e => hks (List.length_eq_zero_iff.mp e)
  rw [statFst_normalized _ hne, statFst, fstParts_eq_wsum, gFst, sumOver, sumOver, sumList_eq_sum, sumList_eq_sum]
  simp only [h.length, wsum_int_spectrum ns ks x h]
  refine congrArg₂ (· / ·) ?_ ?_ <;> refine congrArg List.sum (List.map_congr_left fun k hk => ?_)
  · simp only [nth_freqs_flat ns k (h.inB (List.mem_filter.mp hk).1)]
    exact fstNum_eq_hudsonNum ns h2 hns k
  · simp only [nth_freqs_flat ns k (h.inB (List.mem_filter.mp hk).1)]
    rfl

/-- KING, R0, R1 = ratios of two-individual genotype-pair counts. -/
theorem king_def (ks : List (List Nat)) (x : List α) (h : IsSpectrumOf [3, 3] ks x) :
    statKing ⟨x, [3, 3]⟩ = gKing ks := by
  simp (disch := decide) only [statKing, gKing, at33_spectrum ks x h]

theorem r0_def (ks : List (List Nat)) (x : List α) (h : IsSpectrumOf [3, 3] ks x) :
    statR0 ⟨x, [3, 3]⟩ = gR0 ks := by
  simp (disch := decide) only [statR0, gR0, at33_spectrum ks x h]

theorem r1_def (ks : List (List Nat)) (x : List α) (h : IsSpectrumOf [3, 3] ks x) :
    statR1 ⟨x, [3, 3]⟩ = gR1 ks := by
  simp (disch := decide) only [statR1, gR1, at33_spectrum ks x h]

/-! non-vacuity: 2 populations (4 and 2 chromosomes), 4 sites, one of them monomorphic -/
example : IsSpectrumOf (α := Rat) [5, 3] [[1, 0], [4, 2], [1, 0], [2, 1]]
    [0, 0, 0, 2, 0, 0, 0, 1, 0, 0, 0, 0, 0, 0, 1] := by
  refine ⟨by decide, by decide, ?_⟩
  intro k hk
  have : k ∈ allIndices [5, 3] :=
    List.mem_map.mpr ⟨flat [5, 3] k, List.mem_range.mpr (Sfs.flat_lt _ _ hk), Sfs.unflat_flat _ _ hk⟩
  have hall : ∀ k ∈ allIndices [5, 3],
      ([0, 0, 0, 2, 0, 0, 0, 1, 0, 0, 0, 0, 0, 0, 1] : List Rat).getD (flat [5, 3] k) 0
        = ((([[1, 0], [4, 2], [1, 0], [2, 1]] : List (List Nat)).count k : Nat) : Rat) := by
    decide +kernel
  exact hall k this

example : statPiXY (α := Rat) ⟨[0, 0, 0, 2, 0, 0, 0, 1, 0, 0, 0, 0, 0, 0, 1], [5, 3]⟩ = gPiXY 4 2 [[1, 0], [4, 2], [1, 0], [2, 1]] := by
  decide +kernel

end Sfs.C06
