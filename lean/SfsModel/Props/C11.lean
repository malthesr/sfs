/-
C11 — a site's contribution is independent of earlier sites (additive, order-free).
Property theorems only. `α` is any field of characteristic zero.
-/
import SfsModel.Model.Create
import SfsModel.Spec.Create
import SfsModel.Lemmas.Create
namespace Sfs.C11
open Sfs Sfs.Spec

variable {α : Type} [Field α] [CharZero α]

/-- readSite_eq_spec: whatever the buffers hold from earlier records (any counts, totals, skipped list of the right
    length), `read_site` returns the pure function `siteSpec` of the current record: the explicit `reset` works. -/
theorem readSite_eq_spec (cfg : SiteCfg) (hc : CfgOk cfg) (st : SiteSt)
    (h1 : st.counts.length = numPops cfg.map) (h2 : st.totals.length = numPops cfg.map) (gts : List GtRes) :
    (readSite cfg st gts).1 = siteSpec cfg gts :=
  readSite_eq_spec_of_cfgOk cfg hc st h1 h2 gts

/-- The buffers keep their length, so the invariant holds along the whole run. -/
theorem readSite_lengths (cfg : SiteCfg) (st : SiteSt) (gts : List GtRes) :
    (readSite cfg st gts).2.counts.length = st.counts.length ∧ (readSite cfg st gts).2.totals.length = st.totals.length :=
  Sfs.readSite_lengths cfg st gts

/-- readSite_stateless: no state of one record leaks into the next. -/
theorem readSite_stateless (cfg : SiteCfg) (hc : CfgOk cfg) (st st' : SiteSt)
    (h1 : st.counts.length = numPops cfg.map) (h2 : st.totals.length = numPops cfg.map)
    (h1' : st'.counts.length = numPops cfg.map) (h2' : st'.totals.length = numPops cfg.map) (gts : List GtRes) :
    (readSite cfg st gts).1 = (readSite cfg st' gts).1 := by
  rw [readSite_eq_spec cfg hc st h1 h2 gts, readSite_eq_spec cfg hc st' h1' h2' gts]

/-- run_eq_sum: when every record is digestible, the created spectrum is the entrywise sum of the per-record
    contributions, every record is counted as a site, and the skipped counter counts the insufficient ones.
    (The projection scratch buffer is re-zeroed per record: `projectIter` starts from zeros.) -/
theorem run_eq_sum (cfg : SiteCfg) (hc : CfgOk cfg) (recs : List Rec)
    (hwf : ∀ r ∈ recs, RecWf cfg r) (hok : ∀ r ∈ recs, recOk cfg r = true) :
    createRun (α := α) cfg false recs
      = .ok (sumContrib cfg recs, recs.length, (recs.filter (recSkipped cfg)).length) :=
  createRun_nonstrict cfg hc recs hok

/-- run_append: concatenation of record streams = element-wise sum of the parts. -/
theorem run_append (cfg : SiteCfg) (hc : CfgOk cfg) (a b : List Rec)
    (hwf : ∀ r ∈ a ++ b, RecWf cfg r) (hok : ∀ r ∈ a ++ b, recOk cfg r = true) :
    ∃ sa sb na nb ka kb,
      createRun (α := α) cfg false a = .ok (sa, na, ka) ∧ createRun (α := α) cfg false b = .ok (sb, nb, kb) ∧
      createRun (α := α) cfg false (a ++ b) = .ok (List.zipWith (· + ·) sa sb, na + nb, ka + kb) := by
  have ha := createRun_nonstrict (α := α) cfg hc a fun r hr => hok r (by simp [hr])
  have hb := createRun_nonstrict (α := α) cfg hc b fun r hr => hok r (by simp [hr])
  exact ⟨_, _, _, _, _, _, ha, hb, by rw [createRun_append cfg hc.projectTo_length, ha, hb]⟩

/-- run_perm: any permutation of the records yields the same spectrum (exact in a field; in floating point up to
    summation order when projecting). -/
theorem run_perm (cfg : SiteCfg) (hc : CfgOk cfg) (a b : List Rec) (hp : a.Perm b)
    (hwf : ∀ r ∈ a, RecWf cfg r) (hok : ∀ r ∈ a, recOk cfg r = true) :
    createRun (α := α) cfg false a = createRun (α := α) cfg false b := by
  rw [createRun_nonstrict cfg hc a hok, createRun_nonstrict cfg hc b fun r hr => hok r (hp.mem_iff.mpr hr),
    sumContrib_perm cfg a b hp, hp.length_eq, (hp.filter _).length_eq]

/-! non-vacuity: complete → partially missing → exactly sufficient → insufficient, with projection to (2,2) -/
example :
    let cfg : SiteCfg := ⟨[("a", 0), ("b", 1), ("c", 0)], ["a", "b", "c"], some [2, 2]⟩
    (createRun (α := Rat) cfg false
      [.gts "1" 1 [.genotype 1, .genotype 2, .genotype 0], .gts "1" 2 [.genotype 1, .genotype 1, .skipped .missing],
       .gts "1" 3 [.skipped .missing, .genotype 0, .genotype 2], .gts "1" 4 [.genotype 1, .skipped .multiallelic, .genotype 1]]).toOption.map
        (fun r => (r.2.1, r.2.2)) = some (4, 1) := by decide +kernel

end Sfs.C11
