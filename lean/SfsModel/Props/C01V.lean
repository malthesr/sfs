/-
C01 / C06 (input text) — only the GT values decide a site. In the VCF decoder model (`Model/Vcf.lean`, what `sfs create`
gets out of a record) a record's contribution does not depend on its INFO column (summary counts such as AC / AN may be
stale), on further FORMAT keys and their per-sample values, or on the phasing separators; a sample whose field is `.`,
whose GT value is `.` or which has fewer values than keys is missing. Property theorems only.
-/
import SfsModel.Model.Container
import SfsModel.Lemmas.VcfIrrelevant
namespace Sfs.C01
open Sfs

/-- a field of a record line: no tab, no newline -/
def FieldOk (l : List Nat) : Prop := 9 ∉ l ∧ 10 ∉ l

/-- one record line from its ten-plus fields -/
def recLine (chrom pos id ref alt qual filter info format : List Nat) (samples : List (List Nat)) : List Nat :=
  joinTab ([chrom, pos, id, ref, alt, qual, filter, info, format] ++ samples)

/-- An INFO column the parser accepts as far as the model knows its grammar: not empty, and either `.` or `;`-separated entries
    whose keys (the part before `=`) are pairwise different. (Empty and repeated-key INFO columns make the parser refuse the record:
    `Rec.corrupt`.) -/
def InfoOk (info : List Nat) : Prop :=
  info ≠ [] ∧ (info = [46] ∨ hasDupEntry ((splitBytes 59 info).map (fun f => f.takeWhile (· ≠ 61))) = false)

/-- info_irrelevant: the content of an (accepted) INFO column never influences what a record decodes to. -/
theorem info_irrelevant (n prev : Nat) (chrom pos id ref alt qual filter info info' format : List Nat) (samples : List (List Nat))
    (hf : ∀ f ∈ [chrom, pos, id, ref, alt, qual, filter, info, info', format] ++ samples, FieldOk f)
    (hi : InfoOk info) (hi' : InfoOk info') :
    parseVcfRecord n prev (recLine chrom pos id ref alt qual filter info format samples) =
      parseVcfRecord n prev (recLine chrom pos id ref alt qual filter info' format samples) :=
  parseVcfRecord_info n prev chrom pos id ref alt qual filter info info' format samples (fun f hm => (hf f hm).1)
    (infoRefused_false info hi.1 hi.2) (infoRefused_false info' hi'.1 hi'.2)

/-- A sample value: no tab, newline or colon. -/
def ValueOk (l : List Nat) : Prop := 9 ∉ l ∧ 10 ∉ l ∧ 58 ∉ l

/-- extra_format_irrelevant: further FORMAT keys after GT, with arbitrary per-sample values, change nothing. -/
theorem extra_format_irrelevant (gt : List Nat) (extra : List (List Nat)) (hgt : ValueOk gt) (he : ∀ v ∈ extra, ValueOk v) :
    sampleGt (some 0) (gt ++ extra.flatMap (fun v => 58 :: v)) = sampleGt (some 0) gt :=
  sampleGt_append_values gt hgt.2.2 extra

/-- phasing_irrelevant: `/` and `|` are interchangeable in a GT value. -/
theorem phasing_irrelevant (a b : List Nat) (ha : ∀ c ∈ a, c ≠ 47 ∧ c ≠ 124) (hb : ∀ c ∈ b, c ≠ 47 ∧ c ≠ 124) :
    sampleGt (some 0) (a ++ 47 :: b) = sampleGt (some 0) (a ++ 124 :: b) :=
  sampleGt_sep a b

/-- missing_spellings: a sample field `.`, a GT value `.`, and — with GT not the only key — a field that stops before the
    GT position all mean "missing"; a record without any GT key makes every sample missing. -/
theorem missing_spellings (field : List Nat) :
    sampleGt (some 0) [46] = some (.skipped .missing) ∧
    sampleGt (some 0) ([46] ++ 58 :: field) = some (.skipped .missing) ∧
    sampleGt none field = some (.skipped .missing) :=
  ⟨by decide, by rw [sampleGt_zero, if_neg (append_sep_ne_dot [46] field (by decide))]; rfl, rfl⟩

/-! non-vacuity: a stale AC on a real line -/
example : parseVcfRecord 2 1 (strBytes "1\t5\t.\tA\tC\t.\t.\tAC=7;AN=4\tGT:DP\t0/1:3\t1|1:9") =
    some (.gts "1" 5 [.genotype 1, .genotype 2]) := by
  rw [strBytes_ofList]
  decide +kernel

example : InfoOk (strBytes "AC=7;AN=4") ∧ InfoOk (strBytes ".") ∧ ¬ InfoOk (strBytes "DP=1;DP=2") := by
  unfold InfoOk
  repeat rw [strBytes_ofList]
  decide +kernel

end Sfs.C01
