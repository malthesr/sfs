/-
L2 — code-shaped model of `core/src/array/npy.rs`, `npy/header.rs` (after fixes F2, F17) and the nom grammar of
`npy/header/parse.rs`. Bytes are `Nat`s below 256, f64 values are 64-bit patterns (`Nat` below 2^64) so that
NaN payloads and infinities are transported bit-identically. Core Lean only.
-/
import SfsModel.Model.F64
import SfsModel.Model.Array
namespace Sfs

inductive IoErr where
  | eof          -- `read_exact` hit the end (`UnexpectedEof`)
  | io           -- the underlying reader / writer failed
  | invalid      -- `InvalidData` / `InvalidInput`: the content is rejected
deriving Repr, DecidableEq

def asciiBytes (s : List Char) : List Nat := s.map Char.toNat
def bytesToChars (b : List Nat) : List Char := b.map Char.ofNat

def npyMagic : List Nat := [0x93, 78, 85, 77, 80, 89]     -- "\x93NUMPY"

inductive NpyTy where
  | f4 | f8 | i1 | i2 | i4 | i8 | u1 | u2 | u4 | u8
deriving Repr, DecidableEq

inductive Endian where
  | little | big
deriving Repr, DecidableEq

def NpyTy.width : NpyTy → Nat
  | .f4 => 4 | .f8 => 8 | .i1 => 1 | .i2 => 2 | .i4 => 4 | .i8 => 8 | .u1 => 1 | .u2 => 2 | .u4 => 4 | .u8 => 8

def NpyTy.name : NpyTy → List Char
  | .f4 => "f4".toList | .f8 => "f8".toList | .i1 => "i1".toList | .i2 => "i2".toList | .i4 => "i4".toList
  | .i8 => "i8".toList | .u1 => "u1".toList | .u2 => "u2".toList | .u4 => "u4".toList | .u8 => "u8".toList

/-! ## writer -/

def showNat (n : Nat) : List Char := Nat.toDigits 10 n

/-- `shape.iter().map(to_string).join(sep)`. -/
def joinNats (sep : List Char) : List Nat → List Char
  | [] => []
  | [a] => showNat a
  | a :: rest => showNat a ++ sep ++ joinNats sep rest

/-- `HeaderDict` Display for `<f8`, C order. -/
def npyDict (shape : List Nat) : List Char :=
  "{'descr': '<f8', 'fortran_order': False, 'shape': (".toList ++ joinNats ", ".toList shape ++ ",), }".toList

/-- `Header::write` (v1.0): everything before the values; `none` when the header length does not fit `u16`
    (the code then returns an `InvalidInput` error after magic and version have been written). -/
def npyHeader (shape : List Nat) : Option (List Nat) :=
  let dict := npyDict shape
  let len := 6 + 2 + 2 + dict.length
  let rem := len % 64
  let padLen := 64 - rem
  let headerLen := dict.length + padLen
  if headerLen < 65536 then
    some (npyMagic ++ [1, 0] ++ leBytes 2 headerLen ++ asciiBytes dict ++ List.replicate (padLen - 1) 32 ++ [10])
  else none

/-- `write_array`: header then every value as 8 little-endian bytes, row-major. -/
def writeNpy (shape : List Nat) (bits : List Nat) : Except IoErr (List Nat) :=
  match npyHeader shape with
  | some h => .ok (h ++ (bits.map (leBytes 8)).flatten)
  | none => .error .invalid

/-! ## header grammar (nom combinators as functions `input → Option (value × rest)`) -/

abbrev P (α : Type) := List Char → Option (α × List Char)

def pTag (t : List Char) : P Unit := fun inp =>
  if t.isPrefixOf inp then some ((), inp.drop t.length) else none

/-- `space0`: zero or more spaces or tabs. -/
def pSpace0 : P Unit := fun inp => some ((), inp.dropWhile (fun c => c = ' ' ∨ c = '\t'))

/-- `(space0, tag(sep), space0)`. -/
def pWsSep (sep : List Char) : P Unit := fun inp =>
  match pSpace0 inp with
  | some (_, r1) => match pTag sep r1 with
    | some (_, r2) => pSpace0 r2
    | none => none
  | none => none

/-- `delimited(tag(q), is_not(q), tag(q))`: a non-empty run without the quote character. -/
def pQuote (q : Char) : P (List Char) := fun inp =>
  match inp with
  | c :: rest =>
    if c = q then
      let body := rest.takeWhile (· ≠ q)
      let after := rest.dropWhile (· ≠ q)
      if body.isEmpty then none
      else match after with
        | c' :: rest' => if c' = q then some (body, rest') else none
        | [] => none
    else none
  | [] => none

/-- `alt((quote("'"), quote("\"")))`. -/
def pString : P (List Char) := fun inp =>
  match pQuote '\'' inp with
  | some r => some r
  | none => pQuote '"' inp

def pTargetString (t : List Char) : P Unit := fun inp =>
  match pString inp with
  | some (s, r) => if s = t then some ((), r) else none
  | none => none

def pBool : P Bool := fun inp =>
  match pTag "True".toList inp with
  | some (_, r) => some (true, r)
  | none => match pTag "False".toList inp with
    | some (_, r) => some (false, r)
    | none => none

def pEndian : P Endian := fun inp =>
  match inp with
  | '|' :: r => some (.little, r)
  | '<' :: r => some (.little, r)
  | '>' :: r => some (.big, r)
  | _ => none

def pType : P NpyTy := fun inp =>
  match inp with
  | 'f' :: '4' :: r => some (.f4, r) | 'f' :: '8' :: r => some (.f8, r)
  | 'u' :: '1' :: r => some (.u1, r) | 'u' :: '2' :: r => some (.u2, r) | 'u' :: '4' :: r => some (.u4, r) | 'u' :: '8' :: r => some (.u8, r)
  | 'i' :: '1' :: r => some (.i1, r) | 'i' :: '2' :: r => some (.i2, r) | 'i' :: '4' :: r => some (.i4, r) | 'i' :: '8' :: r => some (.i8, r)
  | _ => none

/-- `parse_string.and_then(all_consuming(parse_type_descriptor))`. -/
def pDescrValue : P (Endian × NpyTy) := fun inp =>
  match pString inp with
  | some (s, r) => match pEndian s with
    | some (e, s1) => match pType s1 with
      | some (t, []) => some ((e, t), r)
      | _ => none
    | none => none
  | none => none

/-- `character::complete::u64`: one or more digits, failing on overflow of `u64`. -/
def pU64 : P Nat := fun inp =>
  let ds := inp.takeWhile Char.isDigit
  if ds.isEmpty then none
  else
    let v := ds.foldl (fun acc c => 10 * acc + (c.toNat - '0'.toNat)) 0
    if v < 2 ^ 64 then some (v, inp.dropWhile Char.isDigit) else none

/-- `separated_list1(sep, f)` then `opt(sep)`; `fuel` bounds the number of items (input length suffices). -/
def pSepList1Opt {α} (sep : P Unit) (f : P α) : Nat → P (List α)
  | 0 => fun _ => none
  | fuel + 1 => fun inp =>
    match f inp with
    | none => none
    | some (x, r) =>
      match sep r with
      | none => some ([x], r)
      | some (_, r') =>
        match pSepList1Opt sep f fuel r' with
        | some (xs, r'') => some (x :: xs, r'')
        | none => some ([x], r')          -- no further item: the separator was the optional trailing one

inductive NpyEntry where
  | descr (e : Endian) (t : NpyTy)
  | fortran (b : Bool)
  | shape (s : List Nat)
deriving Repr, DecidableEq

def pEntrySep : P Unit := pWsSep [':']

def pDescrEntry : P NpyEntry := fun inp =>
  match pTargetString "descr".toList inp with
  | some (_, r) => match pEntrySep r with
    | some (_, r2) => match pDescrValue r2 with
      | some ((e, t), r3) => some (.descr e t, r3)
      | none => none
    | none => none
  | none => none

def pFortranEntry : P NpyEntry := fun inp =>
  match pTargetString "fortran_order".toList inp with
  | some (_, r) => match pEntrySep r with
    | some (_, r2) => match pBool r2 with
      | some (b, r3) => some (.fortran b, r3)
      | none => none
    | none => none
  | none => none

def pShape : P (List Nat) := fun inp =>
  match pTag ['('] inp with
  | some (_, r) => match pSepList1Opt (pWsSep [',']) pU64 (r.length + 1) r with
    | some (s, r2) => match pTag [')'] r2 with
      | some (_, r3) => some (s, r3)
      | none => none
    | none => none
  | none => none

def pShapeEntry : P NpyEntry := fun inp =>
  match pTargetString "shape".toList inp with
  | some (_, r) => match pEntrySep r with
    | some (_, r2) => match pShape r2 with
      | some (s, r3) => some (.shape s, r3)
      | none => none
    | none => none
  | none => none

/-- `alt((descr, fortran_order, shape))`. -/
def pEntry : P NpyEntry := fun inp =>
  match pDescrEntry inp with
  | some r => some r
  | none => match pFortranEntry inp with
    | some r => some r
    | none => pShapeEntry inp

/-- `parse_dict`: `{` space0 entries space0 `}`; anything after the closing brace is ignored. -/
def pDict : P (List NpyEntry) := fun inp =>
  match pTag ['{'] inp with
  | some (_, r) => match pSpace0 r with
    | some (_, r1) => match pSepList1Opt (pWsSep [',']) pEntry (r1.length + 1) r1 with
      | some (es, r2) => match pSpace0 r2 with
        | some (_, r3) => match pTag ['}'] r3 with
          | some (_, r4) => some (es, r4)
          | none => none
        | none => none
      | none => none
    | none => none
  | none => none

structure NpyDict where
  endian : Endian
  ty : NpyTy
  fortran : Bool
  shape : List Nat
deriving Repr, DecidableEq

/-- `HeaderDict::from_str`: the last entry of each kind wins; all three are required. -/
def parseNpyDict (s : List Char) : Option NpyDict :=
  match pDict s with
  | none => none
  | some (es, _) =>
    let d := es.foldl (fun (acc : Option (Endian × NpyTy) × Option Bool × Option (List Nat)) e =>
      match e with
      | .descr en t => (some (en, t), acc.2.1, acc.2.2)
      | .fortran b => (acc.1, some b, acc.2.2)
      | .shape sh => (acc.1, acc.2.1, some sh)) (none, none, none)
    match d with
    | (some (en, t), some f, some sh) => some ⟨en, t, f, sh⟩
    | _ => none

/-! ## reader -/

/-- One value of the given type from exactly `width` bytes, as the binary64 pattern of `x as f64`. -/
def decodeValue (en : Endian) (t : NpyTy) (bytes : List Nat) : Nat :=
  let n := match en with | .little => ofLeBytes bytes | .big => ofBeBytes bytes
  match t with
  | .f8 => n
  | .f4 => f64BitsOfF32Bits n
  | .u1 | .u2 | .u4 | .u8 => f64BitsOfNat false n
  | .i1 => f64BitsOfInt (signedOf 1 n)
  | .i2 => f64BitsOfInt (signedOf 2 n)
  | .i4 => f64BitsOfInt (signedOf 4 n)
  | .i8 => f64BitsOfInt (signedOf 8 n)

/-- The value loop `while !fill_buf()?.is_empty() { read_exact(width) }` on the remaining bytes. -/
def readValues (en : Endian) (t : NpyTy) : Nat → List Nat → Except IoErr (List Nat)
  | 0, _ => .ok []
  | fuel + 1, bytes =>
    if bytes.isEmpty then .ok []
    else if bytes.length < t.width then .error .eof
    else match readValues en t fuel (bytes.drop t.width) with
      | .ok vs => .ok (decodeValue en t (bytes.take t.width) :: vs)
      | .error e => .error e

def allAscii (b : List Nat) : Bool := b.all (· < 128)

/-- `read_array` on a complete byte string: (shape, binary64 patterns). -/
def readNpy (bytes : List Nat) : Except IoErr (List Nat × List Nat) :=
  if bytes.length < 6 then .error .eof
  else if bytes.take 6 ≠ npyMagic then .error .invalid
  else
    let r := bytes.drop 6
    if r.length < 2 then .error .eof
    else
      let lenWidth : Option Nat := match r.getD 0 0 with
        | 1 => some 2 | 2 => some 4 | 3 => some 4 | _ => none
      match lenWidth with
      | none => .error .invalid
      | some w =>
        let r := r.drop 2
        if r.length < w then .error .eof
        else
          let headerLen := ofLeBytes (r.take w)
          let r := r.drop w
          if r.length < headerLen then .error .eof
          else
            let dictBytes := r.take headerLen
            let body := r.drop headerLen
            if !allAscii dictBytes then .error .invalid      -- (valid non-ASCII UTF-8 is not modelled: see DESIGN)
            else match parseNpyDict (bytesToChars dictBytes) with
              | none => .error .invalid
              | some d =>
                if d.fortran then .error .invalid
                else match readValues d.endian d.ty (body.length + 1) body with
                  | .error e => .error e
                  | .ok vals =>
                    if checkedSize d.shape = some vals.length then .ok (d.shape, vals) else .error .invalid

end Sfs

/- Rust functions mirrored in this file beyond those cited above (read by tools/trace_matrix.py):
   core/src/array.rs: read_npy, write_npy; core/src/array/npy/header.rs: from_header_bytes, to_header_bytes, get_read_fn (decoder table: decodeValue), header_len_bytes_len, read_header_len, write_header_len (version-dependent length field); core/src/array/npy/header/parse.rs: dict_sep, entry_sep, shape_sep, whitespace_sep, parse_bool, parse_descr_entry, parse_endian, parse_entry, parse_fortran_order_entry, parse_header_dict, parse_shape, parse_shape_entry, parse_target_string, parse_type, parse_usize, parse_usize_sequence, separated_list1_opt (the p* combinators above, in the grammar's order) -/
